import CorgiProofs.AdjointConv
namespace Corgi
theorem rollIdx_lt' (D R C sr sc fr fc q : Nat) (hfr : fr ≤ R) (hfc : fc ≤ C) (hfr1 : 1 ≤ fr) (hfc1 : 1 ≤ fc) (hD : 1 ≤ D)
    (hq : q < (((R - fr) / sr + 1) * ((C - fc) / sc + 1)) * (fr * fc) * D) :
    rollIdx D R C sr sc fr fc ((C - fc) / sc + 1) q < D * R * C := by
  rw [← unrollIdx_eq_rollIdx]
  exact unrollIdx_lt C R D sr sc fr fc q hfr hfc hfr1 hfc1 hD (by rwa [Nat.mul_right_comm])
end Corgi
