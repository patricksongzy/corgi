import CorgiProofs.Conv
import CorgiProofs.Blocks
set_option linter.unusedVariables false
namespace Corgi
variable {S : Type} [Add S] [Mul S] [Neg S] [Sub S] [ScalarOps S] [BEq S]

theorem unroll_flat' (B : List Nat) (D R C sr sc fr fc : Nat) (iv : List S)
    (hposB : ∀ d ∈ B, 1 ≤ d) (hD : 1 ≤ D) (hR : 1 ≤ R) (hC : 1 ≤ C)
    (hlen : iv.length = prod B * (D * R * C))
    (hfr : fr ≤ R) (hfc : fc ≤ C) (hfr1 : 1 ≤ fr) (hfc1 : 1 ≤ fc) (hsr : 1 ≤ sr) (hsc : 1 ≤ sc) :
    unrollBlocks (⟨B ++ [D, R, C], iv⟩ : Tensor S) sr sc fr fc
      = .ok ⟨B ++ [((R - fr) / sr + 1) * ((C - fc) / sc + 1), D * (fr * fc)],
          (List.range (prod B * ((((R - fr) / sr + 1) * ((C - fc) / sc + 1)) * D * (fr * fc)))).map (fun p =>
            iv.getD (p / ((((R - fr) / sr + 1) * ((C - fc) / sc + 1)) * D * (fr * fc)) * (D * R * C)
              + unrollIdx C R D sr sc fr fc ((C - fc) / sc + 1)
                  (p % ((((R - fr) / sr + 1) * ((C - fc) / sc + 1)) * D * (fr * fc)))) zero)⟩ := by
  generalize hoR : (R - fr) / sr + 1 = oR
  generalize hoC : (C - fc) / sc + 1 = oC
  have hoR1 : 1 ≤ oR := by rw [← hoR]; exact Nat.succ_pos _
  have hoC1 : 1 ≤ oC := by rw [← hoC]; exact Nat.succ_pos _
  generalize hblk : oR * oC * D * (fr * fc) = blk
  have hblk1 : 0 < blk := by
    rw [← hblk]; exact Nat.mul_pos (Nat.mul_pos (Nat.mul_pos hoR1 hoC1) hD) (Nat.mul_pos hfr1 hfc1)
  have htake : (B ++ [D, R, C]).take ((B ++ [D, R, C]).length - 3) = B := by simp
  have hprodO : prod [oR * oC, D * (fr * fc)] = blk := by
    rw [prod2, ← hblk]; simp only [Nat.mul_assoc]
  unfold unrollBlocks
  have d3 : dimFromEnd (B ++ [D, R, C]) 3 = .ok D := by simp [dimFromEnd, getR, pure, Except.pure]
  have d2 : dimFromEnd (B ++ [D, R, C]) 2 = .ok R := by simp [dimFromEnd, getR, pure, Except.pure]
  have d1 : dimFromEnd (B ++ [D, R, C]) 1 = .ok C := by simp [dimFromEnd, getR, pure, Except.pure]
  have c1 : (decide (R < fr) || decide (C < fc)) = false := by simp; omega
  have c2 : (decide (sr = 0) || decide (sc = 0)) = false := by simp; omega
  simp only [d3, d2, d1, c1, c2, bind, Except.bind, pure, Except.pure, Bool.false_eq_true, if_false, htake, hoR, hoC, hblk]
  -- the batch loop: one gather per image
  have h := slicedOp_blocks (⟨B ++ [D, R, C], iv⟩ : Tensor S) B [D, R, C] [oR * oC, D * (fr * fc)]
    (unrollOp C R D sr sc fr fc oC blk)
    (fun img => (List.range blk).map (fun o => img.getD (unrollIdx C R D sr sc fr fc oC o) zero))
    ⟨rfl, by rw [hlen, prod_append, prod3]⟩ hposB
    (by intro d hd; simp at hd; rcases hd with rfl | rfl
        · exact Nat.mul_pos hoR1 hoC1
        · exact Nat.mul_pos hD (Nat.mul_pos hfr1 hfc1))
    (fun img himg => ⟨tabulateM_ok _ _ _ (fun o ho => getR_ok _ _ _ (by
        have hidx : unrollIdx C R D sr sc fr fc oC o < img.length := by
          rw [himg, prod3, ← hoC]
          exact unrollIdx_lt C R D sr sc fr fc o hfr hfc hfr1 hfc1 hD (by rw [hoR, hoC, hblk]; exact ho)
        rw [List.getD_eq_getElem?_getD, List.getElem?_eq_getElem hidx]; rfl)), by rw [hprodO]; simp⟩)
  simp only [List.length_cons, List.length_nil] at h
  rw [h, ← flatten_range_blocks _ blk (prod B), prod3]
  congr 3
  apply List.map_congr_left
  intro n hn
  apply List.map_congr_left
  intro o ho
  have ho' : o < blk := by simpa using ho
  have hb : n * (D * R * C) + D * R * C ≤ iv.length := by
    rw [hlen]
    have : (n + 1) * (D * R * C) ≤ prod B * (D * R * C) := Nat.mul_le_mul_right _ (Nat.succ_le_of_lt (by simpa using hn))
    rw [Nat.add_mul, Nat.one_mul] at this; exact this
  have hidx : unrollIdx C R D sr sc fr fc oC o < D * R * C := by
    rw [← hoC]
    exact unrollIdx_lt C R D sr sc fr fc o hfr hfc hfr1 hfc1 hD (by rw [hoR, hoC, hblk]; exact ho')
  have h1 : (n * blk + o) / blk = n := by
    rw [Nat.mul_comm n, Nat.mul_add_div hblk1, Nat.div_eq_of_lt ho', Nat.add_zero]
  have h2 : (n * blk + o) % blk = o := by
    rw [Nat.mul_comm n, Nat.mul_add_mod, Nat.mod_eq_of_lt ho']
  rw [h1, h2, List.getD_eq_getElem?_getD, block_getElem? iv _ _ _ hidx hb]; rfl
end Corgi
