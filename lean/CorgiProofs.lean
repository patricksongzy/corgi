import CorgiProofs.Result
import CorgiProofs.Lists
import CorgiProofs.Index
import CorgiProofs.Broadcast
import CorgiProofs.Sliced
import CorgiProofs.Ewise
import CorgiProofs.Sums
import CorgiProofs.OfFn
import CorgiProofs.EngineCount
import CorgiProofs.EngineProcess
import CorgiProofs.EngineTop
import CorgiProofs.PathSum
import CorgiProofs.Instances
import CorgiProofs.Optim
import CorgiProofs.Frame
import CorgiProofs.VjpEqns
import CorgiProofs.HeapInv
import CorgiProofs.HeapOps
import CorgiProofs.HeapStep
import CorgiProofs.Matmul
import CorgiProofs.FlattenTo
import CorgiProofs.Pointwise
import CorgiProofs.RealClosures
import CorgiProofs.Conv
import CorgiProofs.Owners
import CorgiProofs.Composite
import CorgiProofs.Linear
import CorgiProofs.LinearTags
import CorgiProofs.LinearSum
import CorgiProofs.LinearMatmul
import CorgiProofs.ConvBack
import CorgiProofs.LinearConv
import CorgiProofs.LinearHeap
import CorgiProofs.ShapeCheckSound
import CorgiProofs.ConvAt
import CorgiProofs.Adjoint
import CorgiProofs.AdjointMatmul
import CorgiProofs.AdjointConv
