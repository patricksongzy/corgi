/-
  CorgiProofs.EngineProcess — L3a, second half: the delivery / recursion skeleton of `backward`.

  `process_induct` is rule induction over a pass that completes: every theorem about `process` /
  `deliver` (counts and the frame here, the conserved sum in `PathSum`) is an instance.

  The counting invariant `CInv` is value-free: of the closures' answers only the Some/None pattern is used.
-/
import CorgiProofs.EngineCount
import CorgiProofs.Result

set_option linter.unusedSectionVars false

namespace Corgi
open Classical

variable {S : Type} [Add S] [Mul S] [Neg S] [Sub S] [ScalarOps S] [BEq S]

/-- node `n` takes its pending delta `x` and is logged -/
abbrev EState.take (σ : EState S) (n : Nat) (x : Tensor S) : EState S :=
  { σ with delta := upd σ.delta n none, log := (n, x) :: σ.log }

/-- one delivery to node `k`: its pending delta becomes `nd`, its count goes down -/
abbrev EState.give (σ : EState S) (k : Nat) (nd : Tensor S) : EState S :=
  { σ with delta := upd σ.delta k (some nd), cnt := upd σ.cnt k (σ.cnt k - 1) }

abbrev EState.store (σ : EState S) (n : Nat) (g : Tensor S) : EState S :=
  { σ with grad := upd σ.grad n (some g) }

/-- by `rfl`: unfolding `process` by `simp` or `unfold` proves its equation lemmas anew in every theorem that
    does so -/
theorem process_succ (G : Graph S) (f n : Nat) (keep : Bool) (σ : EState S) :
    process G (f + 1) n keep σ = (match σ.delta n with
      | none => throw .modelGap
      | some x => do
        let σ1 ← enter G (process G f) n x (σ.take n x)
        if (G.kids n).isEmpty || keep then storeGrad n x σ1 else pure σ1) := by rfl

theorem storeGrad_ok {n : Nat} {x : Tensor S} {σ σ' : EState S} (h : storeGrad n x σ = .ok σ') :
    ∃ g, mergeDelta (σ.grad n) x = .ok g ∧ σ' = σ.store n g := by
  obtain ⟨g, hg, h⟩ := bindOk h
  exact ⟨g, hg, by cases h; rfl⟩

theorem deliver_some_ok {rec : Nat → Bool → EState S → R (EState S)} {s : Slot} {ss : List Slot}
    {d : Tensor S} {ds : List (Option (Tensor S))} {σ σ' : EState S}
    (h : deliver rec (s :: ss) (some d :: ds) σ = .ok σ') :
    ∃ d' nd σ3, flattenTo d s.dims = .ok d' ∧ mergeDelta (σ.delta s.node) d' = .ok nd ∧ σ.cnt s.node ≠ 0 ∧
      (if σ.cnt s.node = 1 then rec s.node s.keep (σ.give s.node nd) else pure (σ.give s.node nd)) = .ok σ3 ∧
      deliver rec ss ds σ3 = .ok σ' := by
  obtain ⟨d', h1, h⟩ := bindOk h
  obtain ⟨nd, h2, h⟩ := bindOk h
  by_cases hc : σ.cnt s.node = 0
  · rw [if_pos hc] at h; cases h
  · rw [if_neg hc] at h
    refine ⟨d', nd, ?_⟩
    by_cases hc1 : σ.cnt s.node = 1
    · rw [if_pos hc1] at h ⊢
      obtain ⟨σ3, h3, h⟩ := bindOk h
      exact ⟨σ3, h1, h2, hc, h3, h⟩
    · rw [if_neg hc1] at h ⊢
      exact ⟨_, h1, h2, hc, rfl, h⟩

/-- Rule induction over a pass that completes.  `Pp n keep σ σ'` is to hold whenever `process` on `n`
    takes `σ` to `σ'`, `Pd ks ds σ σ'` whenever the delivery loop does; fuel, the monad and the failing
    branches are dealt with here, once. -/
theorem process_induct {G : Graph S}
    {Pp : Nat → Bool → EState S → EState S → Prop}
    {Pd : List Slot → List (Option (Tensor S)) → EState S → EState S → Prop}
    (nil : ∀ ks σ, Pd ks [] σ σ)
    (skip : ∀ ks ds σ σ', Pd ks.tail ds σ σ' → Pd ks (none :: ds) σ σ')
    (pass : ∀ s ss d ds σ d' nd σ3 σ', flattenTo d s.dims = .ok d' →
      mergeDelta (σ.delta s.node) d' = .ok nd → σ.cnt s.node ≠ 0 →
      (σ.cnt s.node = 1 ∧ Pp s.node s.keep (σ.give s.node nd) σ3 ∨
        σ.cnt s.node ≠ 1 ∧ σ3 = σ.give s.node nd) →
      Pd ss ds σ3 σ' → Pd (s :: ss) (some d :: ds) σ σ')
    (enter : ∀ n keep σ x σ1 σ', σ.delta n = some x →
      ((∃ cl ds, G.vjp n = some cl ∧ cl ((G.kids n).map (·.tracked)) x = .ok ds ∧
          Pd (G.kids n) ds (σ.take n x) σ1) ∨
        G.vjp n = none ∧ G.kids n = [] ∧ σ1 = σ.take n x) →
      (((G.kids n).isEmpty || keep) = true ∧ (∃ g, mergeDelta (σ1.grad n) x = .ok g ∧ σ' = σ1.store n g) ∨
        ((G.kids n).isEmpty || keep) = false ∧ σ' = σ1) → Pp n keep σ σ') :
    ∀ f n keep σ σ', process G f n keep σ = .ok σ' → Pp n keep σ σ' := by
  intro f
  induction f with
  | zero => intro n keep σ σ' h; cases h
  | succ f ih =>
    have del : ∀ ds ks σ σ', deliver (process G f) ks ds σ = .ok σ' → Pd ks ds σ σ' := by
      intro ds
      induction ds with
      | nil => intro ks σ σ' h; cases ks <;> cases h <;> exact nil _ _
      | cons d ds ihd =>
        intro ks σ σ' h
        cases d with
        | none => cases ks <;> exact skip _ _ _ _ (ihd _ _ _ h)
        | some d =>
          cases ks with
          | nil => cases h
          | cons s ss =>
            obtain ⟨d', nd, σ3, h1, h2, hc, h3, h⟩ := deliver_some_ok h
            refine pass s ss d ds σ d' nd σ3 σ' h1 h2 hc ?_ (ihd _ _ _ h)
            split at h3
            · exact .inl ⟨‹_›, ih _ _ _ _ h3⟩
            · cases h3; exact .inr ⟨‹_›, rfl⟩
    intro n keep σ σ' h
    rw [process_succ] at h
    split at h
    · cases h
    · rename_i x hx
      obtain ⟨σ1, h1, h⟩ := bindOk h
      refine enter n keep σ x σ1 σ' hx ?_ ?_
      · unfold Corgi.enter at h1
        split at h1
        · rename_i cl hcl
          obtain ⟨ds, hds, h1⟩ := bindOk h1
          exact .inl ⟨cl, ds, hcl, hds, del _ _ _ _ h1⟩
        · rename_i hcl
          split at h1
          · rename_i he; cases h1; exact .inr ⟨hcl, List.isEmpty_iff.mp he, rfl⟩
          · cases h1
      · split at h
        · rename_i hs; exact .inl ⟨hs, storeGrad_ok h⟩
        · rename_i hs; cases h; exact .inr ⟨(Bool.not_eq_true _).mp hs, rfl⟩

theorem backward_ok {G : Graph S} {fuel n : Nat} {dims : List Nat} {keep : Bool} {seed : Option (Tensor S)}
    {σ σ' : EState S} (h : backward G fuel n dims keep seed σ = .ok σ') :
    ∃ σp, process G fuel n keep σp = .ok σ' ∧ σp.grad = σ.grad ∧ σp.log = σ.log ∧
      (σ.delta n = none → ∃ x, seedOrOnes seed dims = .ok x ∧
        σp = { σ with cnt := (propagate G fuel n ⟨σ.cnt⟩).get, delta := upd σ.delta n (some x) }) := by
  unfold backward at h
  split at h
  · rename_i hd; exact ⟨σ, h, rfl, rfl, fun e => nomatch e.symm.trans hd⟩
  · obtain ⟨x, hx, h⟩ := bindOk h
    exact ⟨_, h, rfl, rfl, fun _ => ⟨x, hx, rfl⟩⟩

/-- the keep flag under which a leaf is entered is irrelevant: a node without stored operands always
    stores -/
theorem backward_leaf_keep (G : Graph S) (f n : Nat) (dims : List Nat) (k1 k2 : Bool) (seed : Option (Tensor S))
    (σ : EState S) (h : G.kids n = []) :
    backward G f n dims k1 seed σ = backward G f n dims k2 seed σ := by
  have hp : process G f n k1 = process G f n k2 := funext fun σ => by
    cases f with
    | zero => rfl
    | succ f => rw [process_succ, process_succ, h]; rfl
  unfold backward
  rw [hp]

/-- nodes entered so far (most recent first) -/
def logN (σ : EState S) : List Nat := σ.log.map (·.1)

/-- A closure is lawful when it answers with one entry per stored operand, `Some` exactly for the
    operands whose saved tracking flag is set. -/
def Graph.Lawful (G : Graph S) : Prop :=
  ∀ n cl x ds, G.vjp n = some cl → cl ((G.kids n).map (·.tracked)) x = .ok ds →
    ds.map Option.isSome = (G.kids n).map (·.tracked)

/-- every node of the log was entered after all its consumers in the reachable graph -/
def LogOrder (G : Graph S) (root : Nat) : List Nat → Prop
  | [] => True
  | n :: l => (∀ p, Reach G root p → 0 < edges (G.kids p) n → p ∈ l) ∧ LogOrder G root l

/-- tracked edges into `m` from reachable nodes that have not been entered yet -/
noncomputable def U (G : Graph S) (root B : Nat) (log : List Nat) (m : Nat) : Nat :=
  indeg G (fun p => Reach G root p ∧ p ∉ log) m B

theorem U_cons (G : Graph S) (root B : Nat) (log : List Nat) (m n : Nat) (hn : n < B)
    (hR : Reach G root n) (hnot : n ∉ log) :
    U G root B log m = U G root B (n :: log) m + edges (G.kids n) m := by
  unfold U
  rw [← indeg_insert G (fun p => Reach G root p ∧ p ∉ n :: log) m n (fun h => h.2 (.head _)) B hn]
  refine indeg_congr G _ _ m B fun p _ => ?_
  by_cases hpn : p = n
  · subst hpn; exact ⟨fun _ => .inr rfl, fun _ => ⟨hR, hnot⟩⟩
  · exact ⟨fun ⟨hp, hl⟩ => .inl ⟨hp, fun hin => (List.mem_cons.mp hin).elim hpn hl⟩,
      fun h => h.elim (fun ⟨hp, hl⟩ => ⟨hp, fun hin => hl (.tail _ hin)⟩) (absurd · hpn)⟩

structure CInv (G : Graph S) (root B : Nat) (σ : EState S) (pend : Nat → Nat) : Prop where
  acct : ∀ m, σ.cnt m = U G root B (logN σ) m + pend m
  sub : ∀ m ∈ logN σ, Reach G root m
  zero : ∀ m ∈ logN σ, σ.cnt m = 0
  nodup : (logN σ).Nodup
  ord : LogOrder G root (logN σ)
  dlog : ∀ m ∈ logN σ, σ.delta m = none
  dout : ∀ m, ¬ Reach G root m → σ.delta m = none

/-- unentered reachable nodes other than the root (and other than `ex`) still expect a delivery -/
def Alive (G : Graph S) (root : Nat) (σ : EState S) (ex : Nat) : Prop :=
  ∀ m, Reach G root m → m ∉ logN σ → m ≠ root → m ≠ ex → 1 ≤ σ.cnt m

theorem CInv.pend_congr {G : Graph S} {root B : Nat} {σ : EState S} {pend pend' : Nat → Nat}
    (h : CInv G root B σ pend) (hp : ∀ m, pend m = pend' m) : CInv G root B σ pend' :=
  ⟨fun m => hp m ▸ h.acct m, h.sub, h.zero, h.nodup, h.ord, h.dlog, h.dout⟩

/-- the bookkeeping of one delivery: the count of `k` went down by one (`h1`, from `upd_pred`), and the
    delivered operand is no longer pending -/
theorem give_acct {x c u p e δ : Nat} (h1 : x + δ = c) (h2 : c = u + (p + (δ + e))) : x = u + (p + e) := by omega

section
variable (G : Graph S) (root B : Nat) (wf : G.WF) (hrB : root < B) (lawful : G.Lawful)
include wf hrB lawful

theorem process_cinv : ∀ (f n : Nat) (keep : Bool) (σ σ' : EState S), process G f n keep σ = .ok σ' →
    ∀ pend, Reach G root n → n ∉ logN σ → n < B → σ.cnt n = 0 → CInv G root B σ pend → Alive G root σ n →
    CInv G root B σ' pend ∧ Alive G root σ' root ∧ (∀ x ∈ n :: logN σ, x ∈ logN σ') := by
  refine process_induct (Pd := fun ks ds σ σ' => ∀ n pend, n < B → (∀ s ∈ ks, s ∈ G.kids n) →
      ds.map Option.isSome = ks.map (·.tracked) → n ∈ logN σ →
      CInv G root B σ (fun m => pend m + edges ks m) → Alive G root σ root →
      CInv G root B σ' pend ∧ Alive G root σ' root ∧ (∀ x ∈ logN σ, x ∈ logN σ')) ?_ ?_ ?_ ?_
  · intro ks σ n pend _ _ hds _ h hal
    have : ks = [] := List.map_eq_nil_iff.mp hds.symm
    subst this
    exact ⟨h, hal, fun x hx => hx⟩
  · -- an untracked operand: nothing is delivered
    intro ks ds σ σ' ih n pend hnB hsub hds hn h hal
    cases ks with
    | nil => cases hds
    | cons s ks =>
      rw [List.tail_cons] at ih
      have ht : s.tracked = false := (List.cons.inj hds).1.symm
      exact ih n pend hnB (fun t ht => hsub t (List.mem_cons_of_mem _ ht)) (List.cons.inj hds).2 hn
        (h.pend_congr fun m => by rw [edges_cons_untracked ht]) hal
  · intro s ks d ds σ d' nd σ3 σ' _ _ hc0 hrec ih n pend hnB hsub hds hn h hal
    have hs : s ∈ G.kids n := hsub s (List.mem_cons_self ..)
    have hsub' : ∀ t ∈ ks, t ∈ G.kids n := fun t ht => hsub t (List.mem_cons_of_mem _ ht)
    have ht : s.tracked = true := (List.cons.inj hds).1.symm
    have hds' := (List.cons.inj hds).2
    have hkn : s.node < n := wf n s hs
    have hRk : Reach G root s.node := Reach.step s (h.sub n hn) hs ht
    have hknot : s.node ∉ logN σ := fun hin => hc0 (h.zero _ hin)
    have hInv2 : CInv G root B (σ.give s.node nd) (fun m => pend m + edges ks m) := by
      refine ⟨?_, h.sub, ?_, h.nodup, h.ord, ?_, ?_⟩
      · exact fun m => give_acct (upd_pred σ.cnt s.node m hc0) (edges_cons_tracked ht ks m ▸ h.acct m)
      · exact fun m hm => have hmk : m ≠ s.node := fun e => hknot (e ▸ hm); (upd_of_ne _ _ hmk).trans (h.zero m hm)
      · exact fun m hm => have hmk : m ≠ s.node := fun e => hknot (e ▸ hm); (upd_of_ne _ _ hmk).trans (h.dlog m hm)
      · exact fun m hm => have hmk : m ≠ s.node := fun e => hm (e ▸ hRk); (upd_of_ne _ _ hmk).trans (h.dout m hm)
    rcases hrec with ⟨h1, hcall⟩ | ⟨h1, rfl⟩
    · -- the count reaches zero: the operand is entered now
      have hal2 : Alive G root (σ.give s.node nd) s.node := fun m hR hl hr hne =>
        Nat.le_trans (hal m hR hl hr hr) (Nat.le_of_eq (upd_of_ne _ _ hne).symm)
      obtain ⟨hI3, hA3, hm3⟩ := hcall _ hRk hknot (Nat.lt_trans hkn hnB) ((upd_self ..).trans (by rw [h1])) hInv2 hal2
      obtain ⟨hI, hA, hm⟩ := ih n pend hnB hsub' hds' (hm3 n (List.mem_cons_of_mem _ hn)) hI3 hA3
      exact ⟨hI, hA, fun x hx => hm x (hm3 x (List.mem_cons_of_mem _ hx))⟩
    · have hal2 : Alive G root (σ.give s.node nd) root := fun m hR hl hr hne =>
        upd_pred_pos σ.cnt s.node m (hal m hR hl hr hne) hc0 h1
      exact ih n pend hnB hsub' hds' hn hInv2 hal2
  · intro n keep σ x σ1 σ' hdel hmid hst pend hR hnot hB hz h hal
    have hlog0 : logN (σ.take n x) = n :: logN σ := rfl
    have hU0 : U G root B (logN σ) n = 0 := (Nat.add_eq_zero_iff.mp ((h.acct n).symm.trans hz)).1
    have hInv0 : CInv G root B (σ.take n x) (fun m => pend m + edges (G.kids n) m) := by
      refine ⟨?_, ?_, ?_, ?_, ?_, ?_, ?_⟩
      · intro m
        show σ.cnt m = U G root B (n :: logN σ) m + _
        rw [h.acct m, U_cons G root B (logN σ) m n hB hR hnot, Nat.add_assoc, Nat.add_comm (edges _ _)]
      · exact List.forall_mem_cons.mpr ⟨hR, h.sub⟩
      · exact List.forall_mem_cons.mpr ⟨hz, h.zero⟩
      · exact List.nodup_cons.mpr ⟨hnot, h.nodup⟩
      · refine ⟨fun p hp he => ?_, h.ord⟩
        -- an unentered reachable consumer would make `U … n` positive
        apply Classical.byContradiction
        intro hpl
        exact Nat.ne_of_gt (Nat.lt_of_lt_of_le he (indeg_ge G (fun p => Reach G root p ∧ p ∉ logN σ) n p ⟨hp, hpl⟩ B
          (Nat.lt_of_le_of_lt (hp.le wf) hrB))) hU0
      · exact List.forall_mem_cons.mpr ⟨upd_self .., fun m hm =>
          have hmn : m ≠ n := fun e => hnot (e ▸ hm); (upd_of_ne _ _ hmn).trans (h.dlog m hm)⟩
      · exact fun m hm => have hmn : m ≠ n := fun e => hm (e ▸ hR); (upd_of_ne _ _ hmn).trans (h.dout m hm)
    have hal0 : Alive G root (σ.take n x) root := fun m hRm hl hr _ =>
      hal m hRm (fun hin => hl (List.mem_cons_of_mem _ hin)) hr (fun e => hl (e ▸ List.mem_cons_self ..))
    have hres : CInv G root B σ1 pend ∧ Alive G root σ1 root ∧ (∀ x ∈ n :: logN σ, x ∈ logN σ1) := by
      rcases hmid with ⟨cl, ds, hv, hcl, hd⟩ | ⟨_, hk, rfl⟩
      · exact hd n pend hB (fun _ h => h) (lawful n cl x ds hv hcl) (List.mem_cons_self ..) hInv0 hal0
      · exact ⟨hInv0.pend_congr fun m => by rw [hk]; rfl, hal0, fun _ h => h⟩
    -- the final gradient accumulation does not touch counts, deltas or the log
    rcases hst with ⟨_, g, _, rfl⟩ | ⟨_, rfl⟩
    · exact ⟨⟨hres.1.1, hres.1.2, hres.1.3, hres.1.4, hres.1.5, hres.1.6, hres.1.7⟩, hres.2.1, hres.2.2⟩
    · exact hres

theorem process_inv : ∀ (f n : Nat) (keep : Bool) (σ σ' : EState S) (pend : Nat → Nat), n < f →
    Reach G root n → n ∉ logN σ → n < B → σ.cnt n = 0 → CInv G root B σ pend → Alive G root σ n →
    process G f n keep σ = .ok σ' →
    CInv G root B σ' pend ∧ Alive G root σ' root ∧ (∀ x ∈ n :: logN σ, x ∈ logN σ') :=
  fun f n keep σ σ' pend _ hR hnot hB hz h hal hok =>
    process_cinv G root B wf hrB lawful f n keep σ σ' hok pend hR hnot hB hz h hal

end

def Frame (σ σ' : EState S) : Prop :=
  (∀ x ∈ logN σ, x ∈ logN σ') ∧ (∀ m, m ∉ logN σ' → σ'.grad m = σ.grad m)

theorem Frame.refl (σ : EState S) : Frame σ σ := ⟨fun _ h => h, fun _ _ => rfl⟩

theorem Frame.trans {a b c : EState S} (h1 : Frame a b) (h2 : Frame b c) : Frame a c :=
  ⟨fun x hx => h2.1 x (h1.1 x hx), fun m hm => by
    rw [h2.2 m hm]; exact h1.2 m (fun hin => hm (h2.1 m hin))⟩

theorem process_frame (G : Graph S) : ∀ (f n : Nat) (keep : Bool) (σ σ' : EState S),
    process G f n keep σ = .ok σ' → Frame σ σ' ∧ n ∈ logN σ' := by
  refine process_induct (Pp := fun n _ σ σ' => Frame σ σ' ∧ n ∈ logN σ') (Pd := fun _ _ σ σ' => Frame σ σ')
    ?_ ?_ ?_ ?_
  · exact fun _ σ => .refl σ
  · exact fun _ _ _ _ h => h
  · intro s ss d ds σ d' nd σ3 σ' _ _ _ hrec hrest
    refine Frame.trans ?_ hrest
    rcases hrec with ⟨_, h, _⟩ | ⟨_, rfl⟩
    · exact h
    · exact .refl σ
  · intro n keep σ x σ1 σ' _ hmid hst
    -- entering logs `n` and touches no gradient; storing touches only the cell of `n`
    have h1 : Frame σ σ1 ∧ n ∈ logN σ1 := by
      have h0 : Frame σ (σ.take n x) := ⟨fun y hy => List.mem_cons_of_mem _ hy, fun _ _ => rfl⟩
      rcases hmid with ⟨_, _, _, _, hd⟩ | ⟨_, _, rfl⟩
      · exact ⟨h0.trans hd, hd.1 n (List.mem_cons_self ..)⟩
      · exact ⟨h0, List.mem_cons_self ..⟩
    rcases hst with ⟨_, g, _, rfl⟩ | ⟨_, rfl⟩
    · exact ⟨h1.1.trans ⟨fun _ h => h, fun m hm => upd_of_ne _ _ fun e => hm (e ▸ h1.2)⟩, h1.2⟩
    · exact h1

theorem backward_frame (G : Graph S) (fuel root : Nat) (dims : List Nat) (keep : Bool)
    (seed : Option (Tensor S)) (σ σ' : EState S) (hok : backward G fuel root dims keep seed σ = .ok σ') :
    ∀ m, m ∉ logN σ' → σ'.grad m = σ.grad m := by
  obtain ⟨σp, hp, hg, _⟩ := backward_ok hok
  rw [← hg]
  exact (process_frame G fuel root keep σp σ' hp).1.2

end Corgi
