/-
  CorgiProofs.PathSum — L3b: the value half of the engine theorem.

  Fix a target node `ℓ` and a coordinate `j`.  `P m x` is the `j`-th coordinate of what a delta `x`
  sitting at node `m` will eventually contribute to `ℓ`'s gradient: `x` itself if `m = ℓ` stores its
  gradient, plus — for every tracked stored operand `i` of `m` — `P (operand i) (Λ m i x)`, where
  `Λ m i` is the (flattened) contribution of `m`'s closure to operand `i`.  Unfolding the recursion,
  `P root seed` is the sum over all tracked paths from the root to `ℓ` of the composed contributions:
  every path exactly once.

  The quantity  T(σ) = grad_σ(ℓ)[j] + Σ_m P m (pending delta of m)  is invariant under every step of a
  pass (each step only moves mass along one edge, and `P` is additive), so at the end — when nothing
  is pending (counting theorem) —  grad'(ℓ)[j] = grad(ℓ)[j] + P root seed.
-/
import CorgiProofs.EngineTop
import CorgiProofs.Ewise
import CorgiProofs.Sums

set_option linter.unusedSectionVars false

namespace Corgi

variable {S : Type} [Add S] [Mul S] [Neg S] [Sub S] [ScalarOps S] [BEq S]

section algebra
variable [AddLaws S]

/-- `Σ_{m < B} g m` -/
def sumN (g : Nat → S) : Nat → S
  | 0 => zero
  | B + 1 => sumN g B + g B

theorem sumN_succ (g : Nat → S) (B : Nat) : sumN g (B + 1) = sumN g B + g B := by rfl

theorem sumN_eq (g : Nat → S) : ∀ B, sumN g B = sumRange B g
  | 0 => rfl
  | B + 1 => by rw [sumN_succ, sumRange_succ, sumN_eq g B]

theorem sumN_update (g g' : Nat → S) (k : Nat) (v : S) (hk : g' k = g k + v) (hne : ∀ m, m ≠ k → g' m = g m) :
    ∀ B, k < B → sumN g' B = sumN g B + v := by
  intro B
  induction B with
  | zero => exact fun h => absurd h (Nat.not_lt_zero k)
  | succ B ih =>
    intro h
    simp only [sumN_succ]
    by_cases hB : k = B
    · subst hB
      rw [sumN_eq, sumRange_congr k (fun m hm => hne m (Nat.ne_of_lt hm)), ← sumN_eq, hk, AddLaws.add_assoc]
    · rw [ih (Nat.lt_of_le_of_ne (Nat.le_of_lt_succ h) hB), hne B (fun e => hB e.symm), AddLaws.add_assoc,
        AddLaws.add_assoc, AddLaws.add_comm v]

end algebra

theorem coord_tadd [AddLaws S] (j : Nat) {d : List Nat} {x y : Tensor S} (hx : Shaped d x) (hy : Shaped d y) :
    coord j (tadd x y).vals = coord j x.vals + coord j y.vals :=
  getD_zipWith (AddLaws.zero_add _) j x.vals y.vals (hx.2.trans hy.2.symm)

/-- What the pass assumes about the graph and its closures (value level).
    `dimsOf` : the dimensions of every node; `Λ n i x` : the flattened contribution of node `n`'s
    closure to its `i`-th stored operand; `κ` : the keep flag under which a node is entered. -/
structure Sem (G : Graph S) where
  dimsOf : Nat → List Nat
  Λ : Nat → Nat → Tensor S → Tensor S
  κ : Nat → Bool
  slotDims : ∀ n s, s ∈ G.kids n → s.dims = dimsOf s.node
  /-- node dimensions are valid array dimensions -/
  dimsValid : ∀ n, dimsOf n ≠ [] ∧ ∀ d ∈ dimsOf n, 1 ≤ d
  /-- a closure that answers, answers with one entry per operand; for a tracked operand the entry,
      reduced to the operand's dimensions, is `Λ n i x` and has the operand's shape -/
  local_ : ∀ n cl x ds, G.vjp n = some cl → Shaped (dimsOf n) x →
    cl ((G.kids n).map (·.tracked)) x = .ok ds →
    ds.length = (G.kids n).length ∧
    ∀ i s, (G.kids n)[i]? = some s →
      (s.tracked = false → ds[i]? = some none) ∧
      (s.tracked = true → ∃ d, ds[i]? = some (some d) ∧
        (∀ t, flattenTo d s.dims = .ok t → t = Λ n i x))
  /-- contributions have the operand's shape -/
  shapedΛ : ∀ n i s x, (G.kids n)[i]? = some s → s.tracked = true → Shaped (dimsOf n) x → Shaped s.dims (Λ n i x)
  /-- contributions are additive in the delta -/
  additive : ∀ n i s x y, (G.kids n)[i]? = some s → Shaped (dimsOf n) x → Shaped (dimsOf n) y →
    Λ n i (tadd x y) = tadd (Λ n i x) (Λ n i y)

section pathsum
variable [AddLaws S] {G : Graph S} (sem : Sem G) (ℓ j : Nat)

/-- does entering node `n` store the delta into its gradient cell? -/
def stores (n : Nat) : Bool := (G.kids n).isEmpty || sem.κ n

theorem leaf_keep (hleaf : G.kids ℓ = []) (n : Nat) (s : Slot) (_ : s ∈ G.kids n) (_ : s.tracked = true)
    (_ : s.node = ℓ) : ((G.kids ℓ).isEmpty || s.keep) = stores sem ℓ := by rw [stores, hleaf]; rfl

/-- `Σ` over the tracked stored operands `s_i` (indices from `i`) of `rec s_i.node (Λ n i x)` -/
def sumSlots (rec : Nat → Tensor S → S) (n : Nat) (x : Tensor S) : List Slot → Nat → S
  | [], _ => zero
  | s :: ss, i => (if s.tracked then rec s.node (sem.Λ n i x) else zero) + sumSlots rec n x ss (i + 1)

/-- the path sum (coordinate `j` of the contribution to `ℓ`), with fuel -/
def Pf : Nat → Nat → Tensor S → S
  | 0, _, _ => zero
  | f + 1, m, x =>
    (if m = ℓ ∧ stores sem m = true then coord j x.vals else zero) + sumSlots sem (Pf f) m x (G.kids m) 0

/-- the path sum of a delta `x` sitting at node `m` -/
def P (m : Nat) (x : Tensor S) : S := Pf sem ℓ j (m + 1) m x

theorem sumSlots_nil (rec : Nat → Tensor S → S) (n : Nat) (x : Tensor S) (i : Nat) :
    sumSlots sem rec n x [] i = zero := by rfl

theorem sumSlots_cons (rec : Nat → Tensor S → S) (n : Nat) (x : Tensor S) (s : Slot) (ss : List Slot) (i : Nat) :
    sumSlots sem rec n x (s :: ss) i
      = (if s.tracked then rec s.node (sem.Λ n i x) else zero) + sumSlots sem rec n x ss (i + 1) := by rfl

theorem Pf_succ (f m : Nat) (x : Tensor S) :
    Pf sem ℓ j (f + 1) m x = (if m = ℓ ∧ stores sem m = true then coord j x.vals else zero)
      + sumSlots sem (Pf sem ℓ j f) m x (G.kids m) 0 := by rfl

theorem sumSlots_congr (rec rec' : Nat → Tensor S → S) (n : Nat) (x : Tensor S) (ss : List Slot) :
    ∀ i, (∀ s ∈ ss, ∀ y, rec s.node y = rec' s.node y) → sumSlots sem rec n x ss i = sumSlots sem rec' n x ss i := by
  induction ss with
  | nil => exact fun _ _ => rfl
  | cons s ss ih =>
    intro i h
    rw [sumSlots_cons, sumSlots_cons, h s (.head _), ih (i + 1) fun t ht => h t (.tail _ ht)]

theorem Pf_stable (wf : G.WF) : ∀ (m f : Nat) (x : Tensor S), m < f → Pf sem ℓ j f m x = Pf sem ℓ j (m + 1) m x := by
  intro m
  induction m using Nat.strongRecOn with
  | _ m ih =>
    intro f x hf
    cases f with
    | zero => exact absurd hf (Nat.not_lt_zero _)
    | succ f =>
      simp only [Pf_succ]
      congr 1
      apply sumSlots_congr
      intro s hs y
      have hk : s.node < m := wf m s hs
      rw [ih s.node hk f y (Nat.lt_of_lt_of_le hk (Nat.le_of_lt_succ hf)), ih s.node hk m y hk]

theorem Pf_unfold (wf : G.WF) (m : Nat) (x : Tensor S) :
    P sem ℓ j m x = (if m = ℓ ∧ stores sem m = true then coord j x.vals else zero)
      + sumSlots sem (P sem ℓ j) m x (G.kids m) 0 := by
  unfold P
  simp only [Pf_succ]
  congr 1
  apply sumSlots_congr
  intro s hs y
  exact Pf_stable sem ℓ j wf s.node m y (wf m s hs)

/-- The path sum is built from `coord j` and the contributions `Λ` by sums and composition: a property
    of maps `Tensor S → S` (relative to the dimensions of their argument) that those preserve holds of
    `Pf f m`. -/
theorem Pf_closed (Q : List Nat → (Tensor S → S) → Prop)
    (zero : ∀ d, Q d fun _ => zero) (add : ∀ d F F', Q d F → Q d F' → Q d fun x => F x + F' x)
    (coord : ∀ d, Q d fun x => coord j x.vals)
    (comp : ∀ n i s F, (G.kids n)[i]? = some s → s.tracked = true → Q (sem.dimsOf s.node) F →
      Q (sem.dimsOf n) fun x => F (sem.Λ n i x)) :
    ∀ f m, Q (sem.dimsOf m) (Pf sem ℓ j f m) := by
  intro f
  induction f with
  | zero => exact fun m => zero _
  | succ f ih =>
    intro m
    show Q _ fun x => (if m = ℓ ∧ stores sem m = true then Corgi.coord j x.vals else Corgi.zero)
      + sumSlots sem (Pf sem ℓ j f) m x (G.kids m) 0
    refine add _ _ _ (by split; exact coord _; exact zero _) ?_
    have key : ∀ (ss : List Slot) (i : Nat), (G.kids m).drop i = ss →
        Q (sem.dimsOf m) fun x => sumSlots sem (Pf sem ℓ j f) m x ss i := by
      intro ss
      induction ss with
      | nil => exact fun _ _ => zero _
      | cons s ss ihs =>
        intro i hi
        have hsi : (G.kids m)[i]? = some s := by
          rw [← Nat.add_zero i, ← List.getElem?_drop, hi]; rfl
        refine add _ _ _ ?_ (ihs (i + 1) (by rw [← List.tail_drop, hi]; rfl))
        by_cases ht : s.tracked = true
        · simp only [ht, if_true]; exact comp m i s _ hsi ht (ih s.node)
        · simp only [ht]; exact zero _
    exact key _ 0 rfl

theorem Pf_add : ∀ (f m : Nat) (x y : Tensor S), Shaped (sem.dimsOf m) x → Shaped (sem.dimsOf m) y →
    Pf sem ℓ j f m (tadd x y) = Pf sem ℓ j f m x + Pf sem ℓ j f m y := by
  refine Pf_closed sem ℓ j (fun d F => ∀ x y, Shaped d x → Shaped d y → F (tadd x y) = F x + F y) ?_ ?_ ?_ ?_
  · exact fun _ _ _ _ _ => (AddLaws.zero_add _).symm
  · intro d F F' hF hF' x y hx hy
    show F _ + F' _ = _
    rw [hF x y hx hy, hF' x y hx hy, add4]
  · exact fun d x y => coord_tadd j
  · intro n i s F hsi ht hF x y hx hy
    have hd := sem.slotDims n s (List.mem_of_getElem? hsi)
    show F (sem.Λ n i (tadd x y)) = _
    rw [sem.additive n i s x y hsi hx hy]
    exact hF _ _ (hd ▸ sem.shapedΛ n i s x hsi ht hx) (hd ▸ sem.shapedΛ n i s y hsi ht hy)

theorem P_add (m : Nat) (x y : Tensor S) (hx : Shaped (sem.dimsOf m) x) (hy : Shaped (sem.dimsOf m) y) :
    P sem ℓ j m (tadd x y) = P sem ℓ j m x + P sem ℓ j m y := Pf_add sem ℓ j (m + 1) m x y hx hy

/-- coordinate `j` of the gradient stored at `ℓ` (zero when absent) -/
def gradVal (σ : EState S) : S :=
  match σ.grad ℓ with
  | some g => coord j g.vals
  | none => zero

/-- what a pending delta `old` of node `k` will still contribute -/
def pendOf (k : Nat) (old : Option (Tensor S)) : S :=
  match old with
  | some d => P sem ℓ j k d
  | none => zero

/-- what the pending delta of `m` will still contribute -/
def pendVal (σ : EState S) (m : Nat) : S := pendOf sem ℓ j m (σ.delta m)

def T (B : Nat) (σ : EState S) : S := gradVal ℓ j σ + sumN (pendVal sem ℓ j σ) B

structure VInv (σ : EState S) : Prop where
  dshape : ∀ m d, σ.delta m = some d → Shaped (sem.dimsOf m) d
  gshape : ∀ g, σ.grad ℓ = some g → Shaped (sem.dimsOf ℓ) g

theorem VInv.set_delta {σ σ2 : EState S} (h : VInv sem ℓ σ) (k : Nat) (new : Option (Tensor S))
    (hnew : ∀ d, new = some d → Shaped (sem.dimsOf k) d) (hd : σ2.delta = upd σ.delta k new)
    (hg : σ2.grad = σ.grad) : VInv sem ℓ σ2 := by
  refine ⟨fun m dm hm => ?_, hg ▸ h.gshape⟩
  rw [hd] at hm
  by_cases hmk : m = k
  · subst hmk; rw [upd_self] at hm; exact hnew dm hm
  · rw [upd_of_ne _ _ hmk] at hm; exact h.dshape m dm hm

/-- merging `x` into a cell `old` of node `k`, seen through an additive `F`: the value grows by `F x`.  Serves the
    pending-delta cell (`F = P k`) and the gradient cell (`F = coord j`). -/
theorem merge_additive (k : Nat) (F : Tensor S → S)
    (hF : ∀ o x, Shaped (sem.dimsOf k) o → Shaped (sem.dimsOf k) x → F (tadd o x) = F o + F x)
    (old : Option (Tensor S)) (x nd : Tensor S)
    (hold : ∀ o, old = some o → Shaped (sem.dimsOf k) o) (hx : Shaped (sem.dimsOf k) x)
    (hm : mergeDelta old x = .ok nd) :
    Shaped (sem.dimsOf k) nd ∧
      F nd = (match (generalizing := false) old with | some o => F o | none => zero) + F x := by
  cases old with
  | none => cases hm; exact ⟨hx, (AddLaws.zero_add _).symm⟩
  | some o =>
    have ho := hold o rfl
    rw [mergeDelta, add_same _ (sem.dimsValid k).1 (sem.dimsValid k).2 o x ho hx] at hm
    cases hm; exact ⟨ho.tadd hx, hF o x ho hx⟩

theorem T_delta {B k : Nat} (hk : k < B) {σ σ2 : EState S} (v : S) (hg : σ2.grad ℓ = σ.grad ℓ)
    (hne : ∀ m, m ≠ k → σ2.delta m = σ.delta m)
    (hv : pendOf sem ℓ j k (σ2.delta k) = pendOf sem ℓ j k (σ.delta k) + v) :
    T sem ℓ j B σ2 = T sem ℓ j B σ + v := by
  unfold T gradVal
  rw [hg, AddLaws.add_assoc]
  congr 1
  exact sumN_update _ _ k v hv (fun m hm => congrArg (pendOf sem ℓ j m) (hne m hm)) B hk

theorem T_clean (B : Nat) {σ : EState S} (h : ∀ m, σ.delta m = none) : T sem ℓ j B σ = gradVal ℓ j σ := by
  unfold T
  rw [sumN_eq, sumRange_congr B (g := fun _ => zero) (fun m _ => by rw [pendVal, h m]; rfl), sumRange_const_zero, add_zero']

theorem T_store (B : Nat) {n : Nat} {σ : EState S} {x g : Tensor S} (hv : VInv sem ℓ σ) (hx : Shaped (sem.dimsOf n) x)
    (hg : mergeDelta (σ.grad n) x = .ok g) :
    VInv sem ℓ (σ.store n g) ∧
      T sem ℓ j B (σ.store n g) = T sem ℓ j B σ + (if n = ℓ then coord j x.vals else zero) := by
  by_cases hnl : n = ℓ
  · subst hnl
    obtain ⟨hgs, hgv⟩ := merge_additive sem n (fun t => coord j t.vals) (fun _ _ => coord_tadd j)
      (σ.grad n) x g hv.gshape hx hg
    refine ⟨⟨hv.dshape, fun g' hg' => ?_⟩, ?_⟩
    · cases (upd_self σ.grad n (some g)).symm.trans hg'; exact hgs
    · have : gradVal n j (σ.store n g) = gradVal n j σ + coord j x.vals := by
        unfold gradVal
        show (match upd σ.grad n (some g) n with | some g => _ | none => _) = _
        rw [upd_self]; exact hgv
      unfold T
      rw [if_pos rfl, this, AddLaws.add_assoc, AddLaws.add_comm (coord j x.vals), ← AddLaws.add_assoc]; rfl
  · have hl : (σ.store n g).grad ℓ = σ.grad ℓ := upd_of_ne _ _ (Ne.symm hnl)
    refine ⟨⟨hv.dshape, fun g' hg' => hv.gshape g' (hl.symm.trans hg')⟩, ?_⟩
    unfold T gradVal
    rw [if_neg hnl, add_zero', hl]; rfl

/-- the answers `ds` of node `n`'s closure to a delta `x`, for the stored operands `ks` at positions
    `i`, `i + 1`, …, as `Sem.local_` describes them -/
def Answers (n : Nat) (x : Tensor S) (ks : List Slot) (ds : List (Option (Tensor S))) (i : Nat) : Prop :=
  ds.length = ks.length ∧ ∀ k s, ks[k]? = some s → (G.kids n)[i + k]? = some s ∧
    (s.tracked = false → ds[k]? = some none) ∧
    (s.tracked = true → ∃ d, ds[k]? = some (some d) ∧ ∀ t, flattenTo d s.dims = .ok t → t = sem.Λ n (i + k) x)

theorem Sem.answers {n : Nat} {cl : Closure S} {x : Tensor S} {ds : List (Option (Tensor S))}
    (hv : G.vjp n = some cl) (hx : Shaped (sem.dimsOf n) x)
    (hcl : cl ((G.kids n).map (·.tracked)) x = .ok ds) : Answers sem n x (G.kids n) ds 0 :=
  have ⟨hlen, hloc⟩ := sem.local_ n cl x ds hv hx hcl
  ⟨hlen, fun k s hk => by rw [Nat.zero_add]; exact ⟨hk, hloc k s hk⟩⟩

variable {sem} in
theorem Answers.tail {n : Nat} {x : Tensor S} {s : Slot} {ks : List Slot} {d : Option (Tensor S)}
    {ds : List (Option (Tensor S))} {i : Nat} (h : Answers sem n x (s :: ks) (d :: ds) i) :
    Answers sem n x ks ds (i + 1) :=
  ⟨Nat.succ.inj h.1, fun k t hk => by rw [Nat.add_right_comm]; exact h.2 (k + 1) t hk⟩

variable {sem} in
theorem Answers.head {n : Nat} {x : Tensor S} {s : Slot} {ks : List Slot} {d : Option (Tensor S)}
    {ds : List (Option (Tensor S))} {i : Nat} (h : Answers sem n x (s :: ks) (d :: ds) i) :
    (G.kids n)[i]? = some s ∧ (s.tracked = false → d = none) ∧
    (s.tracked = true → ∃ d0, d = some d0 ∧ ∀ t, flattenTo d0 s.dims = .ok t → t = sem.Λ n i x) :=
  have ⟨h1, h2, h3⟩ := h.2 0 s rfl
  ⟨h1, fun ht => Option.some.inj (h2 ht), fun ht => have ⟨d0, e, hf⟩ := h3 ht; ⟨d0, Option.some.inj e, hf⟩⟩

section invariant
variable (B : Nat) (wf : G.WF)
  /- the only assumption about keep flags: tracked slots pointing to the observed node `ℓ` itself store
     (or not) as `κ ℓ` says; it is vacuous when `ℓ` is a leaf, which always stores -/
  (hkeep : ∀ n s, s ∈ G.kids n → s.tracked = true → s.node = ℓ → ((G.kids ℓ).isEmpty || s.keep) = stores sem ℓ)
include wf hkeep

/-- Entering a node redistributes its pending delta, the total is conserved; the delivery loop moves
    `Σ P (operand) (Λ …)` from "nowhere" into pending deltas. -/
theorem process_conserves : ∀ (f n : Nat) (keep : Bool) (σ σ' : EState S), process G f n keep σ = .ok σ' →
    n < B → VInv sem ℓ σ → (n = ℓ → ((G.kids n).isEmpty || keep) = stores sem n) →
    VInv sem ℓ σ' ∧ T sem ℓ j B σ' = T sem ℓ j B σ := by
  refine process_induct (Pd := fun ks ds σ σ' => ∀ n x i, n < B → Shaped (sem.dimsOf n) x →
      Answers sem n x ks ds i → VInv sem ℓ σ →
      VInv sem ℓ σ' ∧ T sem ℓ j B σ' = T sem ℓ j B σ + sumSlots sem (P sem ℓ j) n x ks i) ?_ ?_ ?_ ?_
  · intro ks σ n x i _ _ ha hv
    have : ks = [] := List.length_eq_zero_iff.mp ha.1.symm
    subst this
    exact ⟨hv, (add_zero' _).symm⟩
  · intro ks ds σ σ' ih n x i hnB hx ha hv
    cases ks with
    | nil => cases ha.1
    | cons s ks =>
      have ht : s.tracked = false := by
        cases h : s.tracked with
        | false => rfl
        | true => obtain ⟨_, h0, _⟩ := ha.head.2.2 h; cases h0
      obtain ⟨hv', hT'⟩ := ih n x (i + 1) hnB hx ha.tail hv
      exact ⟨hv', by simp [hT', sumSlots_cons, ht, AddLaws.zero_add]⟩
  · intro s ks d ds σ d' nd σ3 σ' hflat hmerge _ hrec ih n x i hnB hx ha hv
    obtain ⟨hsi, hun, htr⟩ := ha.head
    have hsm : s ∈ G.kids n := List.mem_of_getElem? hsi
    have ht : s.tracked = true := by
      cases h : s.tracked with
      | false => cases hun h
      | true => rfl
    obtain ⟨_, h0, hfl⟩ := htr ht
    cases h0
    have hd' : d' = sem.Λ n i x := hfl d' hflat
    have hkn : s.node < n := wf n s hsm
    have hshape : Shaped (sem.dimsOf s.node) d' := by
      rw [hd', ← sem.slotDims n s hsm]; exact sem.shapedΛ n i s x hsi ht hx
    obtain ⟨hnd, hP⟩ := merge_additive sem s.node (P sem ℓ j s.node) (P_add sem ℓ j s.node)
      (σ.delta s.node) d' nd (hv.dshape _) hshape hmerge
    have hv2 : VInv sem ℓ (σ.give s.node nd) :=
      hv.set_delta sem ℓ s.node (some nd) (fun _ e => Option.some.inj e ▸ hnd) rfl rfl
    have hT2 : T sem ℓ j B (σ.give s.node nd) = T sem ℓ j B σ + P sem ℓ j s.node d' :=
      T_delta sem ℓ j (k := s.node) (Nat.lt_trans hkn hnB) _ rfl (fun m hm => upd_of_ne _ _ hm)
        (by simp only [upd_self]; exact hP)
    have h3 : VInv sem ℓ σ3 ∧ T sem ℓ j B σ3 = T sem ℓ j B (σ.give s.node nd) := by
      rcases hrec with ⟨_, hcall⟩ | ⟨_, rfl⟩
      · exact hcall (Nat.lt_trans hkn hnB) hv2 (fun e => e ▸ hkeep n s hsm ht e)
      · exact ⟨hv2, rfl⟩
    obtain ⟨hv', hT'⟩ := ih n x (i + 1) hnB hx ha.tail h3.1
    refine ⟨hv', ?_⟩
    rw [hT', h3.2, hT2]
    simp only [sumSlots_cons, ht, if_true, hd']
    rw [AddLaws.add_assoc]
  · intro n keep σ x σ1 σ' hdel hmid hst hnB hv hke
    have hx : Shaped (sem.dimsOf n) x := hv.dshape n x hdel
    have hv0 : VInv sem ℓ (σ.take n x) := hv.set_delta sem ℓ n none (fun _ e => nomatch e) rfl rfl
    have hT0 : T sem ℓ j B σ = T sem ℓ j B (σ.take n x) + P sem ℓ j n x :=
      T_delta sem ℓ j (k := n) hnB _ rfl (fun m hm => (upd_of_ne _ _ hm).symm)
        (by simp only [upd_self, hdel]; exact (AddLaws.zero_add _).symm)
    have h1 : VInv sem ℓ σ1 ∧ T sem ℓ j B σ1 = T sem ℓ j B (σ.take n x) + sumSlots sem (P sem ℓ j) n x (G.kids n) 0 := by
      rcases hmid with ⟨cl, ds, hvj, hcl, hd⟩ | ⟨_, hk, rfl⟩
      · exact hd n x 0 hnB hx (sem.answers hvj hx hcl) hv0
      · exact ⟨hv0, by rw [hk, sumSlots_nil, add_zero']⟩
    obtain ⟨hv1, hT1⟩ := h1
    have hT : T sem ℓ j B σ = T sem ℓ j B σ1 + (if n = ℓ ∧ stores sem n = true then coord j x.vals else zero) := by
      rw [hT0, Pf_unfold sem ℓ j wf n x, hT1, AddLaws.add_assoc, AddLaws.add_comm (sumSlots ..)]
    rw [hT]
    rcases hst with ⟨hst, g, hg, rfl⟩ | ⟨hst, rfl⟩
    · obtain ⟨hv', hT'⟩ := T_store sem ℓ j B hv1 hx hg
      refine ⟨hv', hT'.trans ?_⟩
      by_cases hnl : n = ℓ
      · rw [if_pos hnl, if_pos ⟨hnl, (hke hnl).symm.trans hst⟩]
      · rw [if_neg hnl, if_neg fun h => hnl h.1]
    · exact ⟨hv1, by rw [if_neg (fun h => by rw [← hke h.1, hst] at h; cases h.2), add_zero']⟩

theorem process_T : ∀ (f n : Nat) (keep : Bool) (σ σ' : EState S), n < f → n < B → VInv sem ℓ σ →
    (n = ℓ → ((G.kids n).isEmpty || keep) = stores sem n) →
    process G f n keep σ = .ok σ' → VInv sem ℓ σ' ∧ T sem ℓ j B σ' = T sem ℓ j B σ :=
  fun f n keep σ σ' _ hnB hv hke hok => process_conserves sem ℓ j B wf hkeep f n keep σ σ' hok hnB hv hke

/-- **The path-sum theorem.**  On every well-founded graph with lawful closures whose contributions
    are additive and shape-correct, a pass that completes from a clean state changes coordinate `j` of
    the gradient stored at `ℓ` by exactly the path sum of the seed:
    `grad'(ℓ)[j] = grad(ℓ)[j] + P root seed` — every tracked path from the root to `ℓ` exactly once,
    whatever the fan-out, the sharing and the order in which contributions arrived. -/
theorem backward_pathsum (lawful : G.Lawful) (fuel root : Nat) (hf : root < fuel) (dims : List Nat)
    (seed : Option (Tensor S)) (σ σ' : EState S) (hclean : σ.Clean) (hlog : σ.log = [])
    (hg : ∀ g, σ.grad ℓ = some g → Shaped (sem.dimsOf ℓ) g)
    (x : Tensor S) (hseed : seedOrOnes seed dims = .ok x) (hxs : Shaped (sem.dimsOf root) x)
    (hok : backward G fuel root dims (sem.κ root) seed σ = .ok σ') :
    gradVal ℓ j σ' = gradVal ℓ j σ + P sem ℓ j root x ∧ (∀ g, σ'.grad ℓ = some g → Shaped (sem.dimsOf ℓ) g) := by
  have hcount := backward_counts G wf lawful fuel root hf dims (sem.κ root) seed σ σ' hclean hlog hok
  obtain ⟨σp, hok, -, -, hp⟩ := backward_ok hok
  obtain ⟨x', hx', rfl⟩ := hp (hclean.2 root)
  cases hseed.symm.trans hx'
  have hvp : VInv sem ℓ { σ with cnt := (propagate G fuel root ⟨σ.cnt⟩).get, delta := upd σ.delta root (some x) } :=
    VInv.set_delta sem ℓ ⟨fun m d hm => (nomatch (hclean.2 m).symm.trans hm), hg⟩ root (some x)
      (fun _ e => Option.some.inj e ▸ hxs) rfl rfl
  obtain ⟨hv', hT'⟩ := process_conserves sem ℓ j (root + 1) wf hkeep fuel root _ _ σ' hok (Nat.lt_succ_self root) hvp
    (fun _ => rfl)
  refine ⟨?_, hv'.gshape⟩
  rw [← T_clean sem ℓ j (root + 1) hcount.1.2, hT', ← T_clean sem ℓ j (root + 1) hclean.2]
  exact T_delta sem ℓ j (k := root) (Nat.lt_succ_self root) _ rfl (fun m hm => upd_of_ne _ _ hm)
    (by simp only [upd_self, hclean.2 root]; exact (AddLaws.zero_add _).symm)

end invariant

theorem Pf_smul (c : S) (hc0 : c * zero = zero) (hdist : ∀ a b : S, c * (a + b) = c * a + c * b)
    (hΛ : ∀ n i s x, (G.kids n)[i]? = some s → Shaped (sem.dimsOf n) x →
      sem.Λ n i (tsmul c x) = tsmul c (sem.Λ n i x)) :
    ∀ (f m : Nat) (x : Tensor S), Shaped (sem.dimsOf m) x →
      Pf sem ℓ j f m (tsmul c x) = c * Pf sem ℓ j f m x := by
  refine Pf_closed sem ℓ j (fun d F => ∀ x, Shaped d x → F (tsmul c x) = c * F x) ?_ ?_ ?_ ?_
  · exact fun _ _ _ => hc0.symm
  · intro d F F' hF hF' x hx
    show F _ + F' _ = _
    rw [hF x hx, hF' x hx, hdist]
  · exact fun d x _ => coord_map (c * ·) hc0 j x.vals
  · intro n i s F hsi ht hF x hx
    show F (sem.Λ n i (tsmul c x)) = _
    rw [hΛ n i s x hsi hx]
    exact hF _ (sem.slotDims n s (List.mem_of_getElem? hsi) ▸ sem.shapedΛ n i s x hsi ht hx)

end pathsum
end Corgi
