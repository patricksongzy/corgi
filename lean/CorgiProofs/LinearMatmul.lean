/-
  The closure of `matmul` (operands of rank ≥ 2, any batch shapes, both transpose flags, any additive term): each
  of the two products it computes with the delta is the specification's product (`matmul_spec_none`), which commutes
  with both operations in either operand; the additive term receives the delta itself.
-/
import CorgiProofs.LinearTags
import CorgiProofs.Matmul

set_option linter.unusedSectionVars false
set_option linter.unusedVariables false

namespace Corgi
variable {S : Type} [Add S] [Mul S] [Neg S] [Sub S] [ScalarOps S] [BEq S]

theorem specMatmul_shaped (a b : Tensor S) (ta tb : Bool) (c : Option (Tensor S)) :
    (specMatmul a ta b tb c).vals.length = prod (specMatmul a ta b tb c).dims := by
  simp only [specMatmul, Tensor.ofFn, List.length_map, List.length_range]

theorem ite_not (b : Bool) (p q : Nat) : (if (!b) = true then p else q) = if b = true then q else p := by
  cases b <;> rfl

section laws
variable [AddLaws S] [MulLaws S] [CommLaws S]

theorem specMatmul_op_left {op : S → S → S} (hop : LinOp op) (x y b : Tensor S) (tx tb : Bool) (hd : x.dims = y.dims)
    (hl : x.vals.length = y.vals.length) :
    specMatmul (tzip op x y) tx b tb none = tzip op (specMatmul x tx b tb none) (specMatmul y tx b tb none) := by
  have e1 : (tzip op x y).dims = x.dims := rfl
  simp only [specMatmul, e1, ← hd, tzip_ofFn]
  congr 1
  funext idx
  simp only [tzip_get hop.zero x y hd hl, hop.mul_right, sumRange_op hop, AddLaws.zero_add]

theorem specMatmul_op_right {op : S → S → S} (hop : LinOp op) (a x y : Tensor S) (ta tx : Bool) (hd : x.dims = y.dims)
    (hl : x.vals.length = y.vals.length) :
    specMatmul a ta (tzip op x y) tx none = tzip op (specMatmul a ta x tx none) (specMatmul a ta y tx none) := by
  have e1 : (tzip op x y).dims = x.dims := rfl
  simp only [specMatmul, e1, ← hd, tzip_ofFn]
  congr 1
  funext idx
  simp only [tzip_get hop.zero x y hd hl, hop.mul_left, sumRange_op hop, AddLaws.zero_add]

theorem specMatmul_add_left (x y b : Tensor S) (tx tb : Bool) (hd : x.dims = y.dims)
    (hl : x.vals.length = y.vals.length) :
    specMatmul (tadd x y) tx b tb none = tadd (specMatmul x tx b tb none) (specMatmul y tx b tb none) :=
  specMatmul_op_left .add x y b tx tb hd hl

theorem specMatmul_add_right (a x y : Tensor S) (ta tx : Bool) (hd : x.dims = y.dims)
    (hl : x.vals.length = y.vals.length) :
    specMatmul a ta (tadd x y) tx none = tadd (specMatmul a ta x tx none) (specMatmul a ta y tx none) :=
  specMatmul_op_right .add a x y ta tx hd hl

theorem linEntry_matmul_left (b : Tensor S) (tx tb : Bool) (lx lb : List Nat) (x1 x2 b1 b2 : Nat) (kd : List Nat)
    (hdb : b.dims = lb ++ [b1, b2]) (hwb : b.WF) (hposX : ∀ d ∈ lx ++ [x1, x2], 1 ≤ d) (hc : Compat lx lb = true)
    (hinner : (if tx then x1 else x2) = (if tb then b2 else b1)) (hkd : ∀ d ∈ kd, 1 ≤ d)
    (hfit : Fits kd (bdims lx lb ++ [if tx then x2 else x1, if tb then b1 else b2]) = true) :
    LinEntry (fun x => matmul x tx b tb none) (lx ++ [x1, x2]) kd := by
  have hposB : ∀ d ∈ lb ++ [b1, b2], 1 ≤ d := hdb ▸ hwb.1
  refine .of_op _ (fun x => specMatmul x tx b tb none) ?_ hkd hfit ?_
    (fun op hop x y hx hy => specMatmul_op_left hop x y b tx tb (hx.1.trans hy.1.symm) (by rw [hx.2, hy.2]))
  · exact pos_append2_iff.mpr (matmul_sizes_pos tx tb lx lb x1 x2 b1 b2 hposX hposB)
  · intro x hx
    refine ⟨matmul_spec_none x b tx tb lx lb x1 x2 b1 b2 hx.1 hdb (hx.wf hposX) hwb hc hinner, ?_, ?_⟩
    · exact specMatmul_dims_snoc2 x b tx tb none lx lb x1 x2 b1 b2 hx.1 hdb
    · rw [specMatmul_shaped, specMatmul_dims_snoc2 x b tx tb none lx lb x1 x2 b1 b2 hx.1 hdb]

theorem linEntry_matmul_right (a : Tensor S) (ta tx : Bool) (la lx : List Nat) (a1 a2 x1 x2 : Nat) (kd : List Nat)
    (hda : a.dims = la ++ [a1, a2]) (hwa : a.WF) (hposX : ∀ d ∈ lx ++ [x1, x2], 1 ≤ d) (hc : Compat la lx = true)
    (hinner : (if ta then a1 else a2) = (if tx then x2 else x1)) (hkd : ∀ d ∈ kd, 1 ≤ d)
    (hfit : Fits kd (bdims la lx ++ [if ta then a2 else a1, if tx then x1 else x2]) = true) :
    LinEntry (fun x => matmul a ta x tx none) (lx ++ [x1, x2]) kd := by
  have hposA : ∀ d ∈ la ++ [a1, a2], 1 ≤ d := hda ▸ hwa.1
  refine .of_op _ (fun x => specMatmul a ta x tx none) ?_ hkd hfit ?_
    (fun op hop x y hx hy => specMatmul_op_right hop a x y ta tx (hx.1.trans hy.1.symm) (by rw [hx.2, hy.2]))
  · exact pos_append2_iff.mpr (matmul_sizes_pos ta tx la lx a1 a2 x1 x2 hposA hposX)
  · intro x hx
    refine ⟨matmul_spec_none a x ta tx la lx a1 a2 x1 x2 hda hx.1 hwa (hx.wf hposX) hc hinner, ?_, ?_⟩
    · exact specMatmul_dims_snoc2 a x ta tx none la lx a1 a2 x1 x2 hda hx.1
    · rw [specMatmul_shaped, specMatmul_dims_snoc2 a x ta tx none la lx a1 a2 x1 x2 hda hx.1]

end laws

/-- **the closure of a `matmul` node** with operands of rank ≥ 2 -/
theorem vjp_lin_matmul [AddLaws S] [MulLaws S] [CommLaws S] (ta tb : Bool) (a b cc self : Tensor S) (f0 f1 f2 : Bool)
    (la lb : List Nat) (a1 a2 b1 b2 : Nat)
    (hda : a.dims = la ++ [a1, a2]) (hdb : b.dims = lb ++ [b1, b2]) (hwa : a.WF) (hwb : b.WF)
    (hc : Compat la lb = true) (hinner : (if ta then a1 else a2) = (if tb then b2 else b1))
    (hcc : ∀ d ∈ cc.dims, 1 ≤ d)
    (hfc : Fits cc.dims (bdims la lb ++ [if ta then a2 else a1, if tb then b1 else b2]) = true) :
    VjpLinear (vjp (.matmul ta tb) [a, b, cc] self) [f0, f1, f2]
      (bdims la lb ++ [if ta then a2 else a1, if tb then b1 else b2]) [a.dims, b.dims, cc.dims] := by
  have hposA : ∀ d ∈ la ++ [a1, a2], 1 ≤ d := hda ▸ hwa.1
  have hposB : ∀ d ∈ lb ++ [b1, b2], 1 ≤ d := hdb ▸ hwb.1
  have hposLa := (pos_append2_iff.mp hposA).1
  have hposLb := (pos_append2_iff.mp hposB).1
  obtain ⟨hposL, hm1, hn1⟩ := matmul_sizes_pos ta tb la lb a1 a2 b1 b2 hposA hposB
  have hposN := pos_append2 hposL hm1 hn1
  obtain ⟨cA, bA⟩ := Fits_absorb hposL (Fits_bdims_left la lb hposLa hc)
  obtain ⟨cB, bB⟩ := Fits_absorb hposL (Fits_bdims_right la lb hposLb hc)
  obtain ⟨cAl, bAl⟩ := Fits_absorb_left hposL (Fits_bdims_left la lb hposLa hc)
  obtain ⟨cBl, bBl⟩ := Fits_absorb_left hposL (Fits_bdims_right la lb hposLb hc)
  have hfa : Fits (la ++ [a1, a2]) (bdims la lb ++ [a1, a2]) = true :=
    Fits_append_tail _ _ _ (Fits_bdims_left la lb hposLa hc)
  have hfb : Fits (lb ++ [b1, b2]) (bdims la lb ++ [b1, b2]) = true :=
    Fits_append_tail _ _ _ (Fits_bdims_right la lb hposLb hc)
  refine vjpLin_slots3 (fun x => vjp_matmul a b [cc] self f0 f1 [] x ta tb f2) (.whenT fun _ => ?_) (.whenT fun _ => ?_)
    (.pass f2 _ _ hposN hcc hfc)
  -- the two products, as entries
  · rw [hda]
    cases ta with
    | false =>
      refine linEntry_matmul_left b false (!tb) (bdims la lb) lb a1 _ b1 b2 _ hdb hwb hposN cBl (ite_not tb b2 b1).symm
        hposA ?_
      rw [bBl, ite_not, ← show a2 = if tb then b2 else b1 from hinner]
      exact hfa
    | true =>
      refine linEntry_matmul_right b tb true lb (bdims la lb) b1 b2 a2 _ _ hdb hwb hposN cB rfl hposA ?_
      rw [bB, ← show a1 = if tb then b2 else b1 from hinner]
      exact hfa
  · rw [hdb]
    cases tb with
    | false =>
      refine linEntry_matmul_right a (!ta) false la (bdims la lb) a1 a2 _ b2 _ hda hwa hposN cA (ite_not ta a1 a2) hposB ?_
      rw [bA, ite_not, show (if ta then a1 else a2) = b1 from hinner]
      exact hfb
    | true =>
      refine linEntry_matmul_left a true ta (bdims la lb) la _ b1 a1 a2 _ hda hwa hposN cAl rfl hposB ?_
      rw [bAl, show (if ta then a1 else a2) = b2 from hinner]
      exact hfb

end Corgi
