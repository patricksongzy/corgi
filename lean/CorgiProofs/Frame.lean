/-
  CorgiProofs.Frame — the frame relation of C08: a later state extends the buffers of an earlier one
  (`BufExt`, an instance of the array-prefix order `Pre`); what an allocation leaves behind, and what a completed
  pass writes back to the heap (`State.backward_ok`).
-/
import CorgiModel.Step
import CorgiProofs.Result

set_option linter.unusedSectionVars false

namespace Corgi

variable {S : Type} [Add S] [Mul S] [Neg S] [Sub S] [ScalarOps S] [BEq S]

/-- `b` extends `a`: every cell of `a` is still there, unchanged.  Buffers, nodes and gradient cells are
    all kept in arrays that only grow this way. -/
def Pre {α} (a b : Array α) : Prop := ∀ i, i < a.size → b[i]? = a[i]?

theorem Pre.refl {α} (a : Array α) : Pre a a := fun _ _ => rfl

theorem Pre.size {α} {a b : Array α} (h : Pre a b) : a.size ≤ b.size := by
  rcases Nat.lt_or_ge b.size a.size with hlt | hge
  · have := h b.size hlt
    rw [Array.getElem?_eq_none (Nat.le_refl _), Array.getElem?_eq_getElem hlt] at this
    cases this
  · exact hge

theorem Pre.trans {α} {a b c : Array α} (h1 : Pre a b) (h2 : Pre b c) : Pre a c := fun i hi => by
  rw [h2 i (Nat.lt_of_lt_of_le hi h1.size), h1 i hi]

theorem Pre.push {α} (a : Array α) (x : α) : Pre a (a.push x) := fun i hi => by
  rw [Array.getElem?_push_lt hi, Array.getElem?_eq_getElem hi]

theorem size_lt_push {α} (a : Array α) (x : α) : a.size < (a.push x).size := Array.size_push x ▸ Nat.lt_succ_self _

/-- `σ'` extends `σ`: every existing buffer is still there, unchanged. -/
def BufExt (σ σ' : State S) : Prop := ∀ i, i < σ.bufs.size → σ'.bufs[i]? = σ.bufs[i]?

theorem BufExt.refl (σ : State S) : BufExt σ σ := Pre.refl _

theorem BufExt.size {a b : State S} (h : BufExt a b) : a.bufs.size ≤ b.bufs.size := Pre.size h

theorem BufExt.trans {a b c : State S} (h1 : BufExt a b) (h2 : BufExt b c) : BufExt a c := Pre.trans h1 h2

theorem BufExt.of_eq {a b : State S} (h : b.bufs = a.bufs) : BufExt a b := fun _ _ => by rw [h]

theorem tensorOf_ext {σ σ' : State S} (hx : BufExt σ σ') (h : Handle) (hb : h.buf < σ.bufs.size) :
    σ'.tensorOf h = σ.tensorOf h := by
  simp only [State.tensorOf, Array.getD_eq_getD_getElem?, hx h.buf hb]

/-! what an allocation leaves behind -/

theorem bufExt_alloc (σ : State S) (t : Tensor S) (kids : List Handle) (tag : Option (OpTag S)) (attach : Bool)
    (label : String) : BufExt σ (σ.alloc t kids tag attach label).1 := Pre.push _ _

theorem tensorOf_alloc_new (σ : State S) (t : Tensor S) (kids : List Handle) (tag : Option (OpTag S)) (attach : Bool)
    (label : String) : (σ.alloc t kids tag attach label).1.tensorOf (σ.alloc t kids tag attach label).2 = t := by
  show Tensor.mk t.dims ((σ.bufs.push t.vals).getD σ.bufs.size []) = t
  rw [Array.getD_eq_getD_getElem?, Array.getElem?_push_size]; rfl

theorem alloc_buf_lt (σ : State S) (t : Tensor S) (kids : List Handle) (tag : Option (OpTag S)) (attach : Bool)
    (label : String) : (σ.alloc t kids tag attach label).2.buf < (σ.alloc t kids tag attach label).1.bufs.size :=
  size_lt_push _ _

/-- A freshly allocated result carries a graph iff `attach`; then both flags are set, otherwise
    none is and the new node stores no operand at all (it keeps no reference to them). -/
theorem alloc_flags (σ : State S) (t : Tensor S) (kids : List Handle) (tag : Option (OpTag S)) (attach : Bool)
    (label : String) :
    (σ.alloc t kids tag attach label).2.tracked = attach ∧ (σ.alloc t kids tag attach label).2.keep = attach ∧
    ((σ.alloc t kids tag attach label).1.nodes[(σ.alloc t kids tag attach label).2.node]?).map (·.kids)
      = some (if attach then kids else []) := by
  simp only [State.alloc]
  refine ⟨trivial, trivial, ?_⟩
  cases attach <;> simp

theorem alloc_leaf_cells (σ : State S) (t : Tensor S) (hsz : σ.grad.size = σ.nodes.size) :
    (σ.alloc t [] none false).1.bufs[σ.bufs.size]? = some t.vals ∧
    (σ.alloc t [] none false).1.grad[σ.nodes.size]? = some none ∧
    ((σ.alloc t [] none false).1.nodes[σ.nodes.size]?).map (·.kids) = some [] :=
  ⟨Array.getElem?_push_size, hsz ▸ Array.getElem?_push_size, (alloc_flags σ t [] none false "").2.2⟩

theorem State.backward_ok {σ σ' : State S} {h : Handle} {seed : Option (Tensor S)} (hok : σ.backward h seed = .ok σ') :
    ∃ e, Corgi.backward σ.graph (σ.nodes.size + 1) h.node h.dims h.keep seed σ.estate = .ok e ∧ σ' = σ.withEState e := by
  obtain ⟨e, he, h2⟩ := bindOk hok
  exact ⟨e, he, (Except.ok.inj h2).symm⟩

theorem bufs_backward {σ σ' : State S} {h : Handle} {seed : Option (Tensor S)} (hok : σ.backward h seed = .ok σ') :
    σ'.bufs = σ.bufs := by
  obtain ⟨e, _, rfl⟩ := State.backward_ok hok; rfl

def OpExt (σ : State S) (r : R (State S × Handle)) : Prop := ∀ σ' h, r = .ok (σ', h) → BufExt σ σ'

theorem OpExt.of_post {σ : State S} {r : R (State S × Handle)} (h : Post r fun p => BufExt σ p.1) : OpExt σ r :=
  fun σ' x e => h (σ', x) e

theorem opExt_throw (σ : State S) (p : Panic) : OpExt σ (throw p : R (State S × Handle)) := .of_post .throw

theorem opExt_ite (σ : State S) (c : Prop) [Decidable c] (a b : R (State S × Handle)) (ha : OpExt σ a) (hb : OpExt σ b) :
    OpExt σ (if c then a else b) := by split <;> assumption

def ResExt (σ : State S) (r : R (State S × Out S)) : Prop := ∀ σ' o, r = .ok (σ', o) → BufExt σ σ'

theorem resExt_match_opt {α} (σ : State S) (o : Option α) (f : α → R (State S × Out S)) (g : R (State S × Out S))
    (hf : ∀ a, ResExt σ (f a)) (hg : ResExt σ g) :
    ResExt σ (match o with | some a => f a | none => g) := by
  cases o with
  | some a => exact hf a
  | none => exact hg

end Corgi
