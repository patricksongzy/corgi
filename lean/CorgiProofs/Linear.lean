/-
  What it means for a closure to be linear, and the tools to show it.  A closure is `VjpLin`/`VjpHom` when it answers
  on every delta of the node's shape, every answer for a tracked operand reduces (`flatten_to`) to a tensor of that
  operand's shape, and the reduced answer is additive / homogeneous in the delta.  Both are commutation with a scalar
  operation applied pointwise (`LinOp`), which `flatten_to` has (`flatten_op`); `LinEntry` is one answer of a closure
  in that form.
-/
import CorgiProofs.FlattenTo
import CorgiProofs.Pointwise
import CorgiProofs.OfFn
import CorgiProofs.Sums

set_option linter.unusedSectionVars false
set_option linter.unusedVariables false

namespace Corgi
variable {S : Type} [Add S] [Mul S] [Neg S] [Sub S] [ScalarOps S] [BEq S]

/-- one closure commutes with scaling the delta by `α` (after reduction to the operands' shapes) -/
def VjpHom (α : S) (cl : List Bool → Tensor S → R (List (Option (Tensor S)))) (t : List Bool) (nd : List Nat)
    (kd : List (List Nat)) : Prop :=
  ∀ x, Shaped nd x → ∃ dx dz, cl t x = .ok dx ∧ cl t (tsmul α x) = .ok dz ∧
    ∀ i : Nat, t[i]? = some true → ∃ (kdi : List Nat) (d1 d3 t1 : Tensor S), kd[i]? = some kdi ∧
      dx[i]? = some (some d1) ∧ dz[i]? = some (some d3) ∧
      flattenTo d1 kdi = .ok t1 ∧ flattenTo d3 kdi = .ok (tsmul α t1)

/-- one closure: total on shaped deltas, answers reducible to the operands' shapes, additive -/
def VjpLin (cl : List Bool → Tensor S → R (List (Option (Tensor S)))) (t : List Bool) (nd : List Nat)
    (kd : List (List Nat)) : Prop :=
  ∀ x y, Shaped nd x → Shaped nd y → ∃ dx dy dz, cl t x = .ok dx ∧ cl t y = .ok dy ∧ cl t (tadd x y) = .ok dz ∧
    ∀ i : Nat, t[i]? = some true → ∃ (kdi : List Nat) (d1 d2 d3 t1 t2 : Tensor S), kd[i]? = some kdi ∧
      dx[i]? = some (some d1) ∧ dy[i]? = some (some d2) ∧ dz[i]? = some (some d3) ∧
      flattenTo d1 kdi = .ok t1 ∧ flattenTo d2 kdi = .ok t2 ∧ flattenTo d3 kdi = .ok (tadd t1 t2) ∧
      Shaped kdi t1 ∧ Shaped kdi t2

/-- A map on tensors is linear when it commutes with `x + y` and with `α · x`.  Both are a scalar operation `op`
    applied pointwise (`tzip op`): `LinOp op` says that `op` is one of the two, and the laws they share (`LinOp.zero`
    .. `LinOp.div`) are all that the closures' linearity uses, so every such fact is stated once, for `op`. -/
inductive LinOp : (S → S → S) → Prop
  | add : LinOp (· + ·)
  | smul (α : S) : LinOp (fun a _ => α * a)

section laws
variable [AddLaws S] [MulLaws S] [CommLaws S] {op : S → S → S} (hop : LinOp op)
include hop

theorem LinOp.zero : op zero zero = zero := by
  cases hop with
  | add => exact AddLaws.zero_add _
  | smul α => exact CommLaws.mul_zero α

theorem LinOp.medial (a b c d : S) : op (a + b) (c + d) = op a c + op b d := by
  cases hop with
  | add => exact add4 a b c d
  | smul α => exact MulLaws.left_distrib α a b

theorem LinOp.mul_left (k a b : S) : k * op a b = op (k * a) (k * b) := by
  cases hop with
  | add => exact MulLaws.left_distrib k a b
  | smul α => show k * (α * a) = α * (k * a); rw [← CommLaws.mul_assoc, CommLaws.mul_comm k α, CommLaws.mul_assoc]

theorem LinOp.mul_right (a b k : S) : op a b * k = op (a * k) (b * k) := by
  cases hop with
  | add => exact MulLaws.right_distrib a b k
  | smul α => exact CommLaws.mul_assoc α a k

theorem LinOp.div (a b k : S) : ScalarOps.div (op a b) k = op (ScalarOps.div a k) (ScalarOps.div b k) := by
  cases hop with
  | add => exact MulLaws.div_add a b k
  | smul α => exact CommLaws.div_smul α a k

theorem sumRange_op (k : Nat) (f g : Nat → S) :
    sumRange k (fun t => op (f t) (g t)) = op (sumRange k f) (sumRange k g) :=
  sumList_map_op hop.zero hop.medial f g (List.range k)

end laws

section op
variable {op : S → S → S}

theorem sumBroadcast_op (h0 : op zero zero = zero) (h4 : ∀ a b c d, op (a + b) (c + d) = op a c + op b d)
    (u v : Tensor S) (dims : List Nat) (hd : u.dims = v.dims) (hl : u.vals.length = v.vals.length) :
    sumBroadcast (tzip op u v) dims = tzip op (sumBroadcast u dims) (sumBroadcast v dims) := by
  simp only [sumBroadcast, tzip]
  congr 1
  rw [← hd, zipWith_map_range]
  apply List.map_congr_left
  intro q _
  rw [← sumList_map_op h0 h4]
  congr 1
  apply List.map_congr_left
  intro n _
  exact getD_zipWith h0 n u.vals v.vals hl

theorem sumBroadcast_shaped (u : Tensor S) (dims : List Nat) : Shaped dims (sumBroadcast u dims) :=
  ⟨rfl, (List.length_map _).trans List.length_range⟩

theorem flatten_op (h0 : op zero zero = zero) (h4 : ∀ a b c d, op (a + b) (c + d) = op a c + op b d)
    (D kd : List Nat) (hD : ∀ d ∈ D, 1 ≤ d) (hk : ∀ d ∈ kd, 1 ≤ d) (hfit : Fits kd D = true)
    (u v : Tensor S) (hu : Shaped D u) (hv : Shaped D v) :
    ∃ t1 t2, flattenTo u kd = .ok t1 ∧ flattenTo v kd = .ok t2 ∧ flattenTo (tzip op u v) kd = .ok (tzip op t1 t2) ∧
      Shaped kd t1 ∧ Shaped kd t2 := by
  by_cases he : (D == kd) = true
  · have e : D = kd := eq_of_beq he
    have eq : ∀ w : Tensor S, Shaped D w → flattenTo w kd = .ok w := fun w hw => flattenTo_eqdims w kd (by rw [hw.1]; exact he)
    exact ⟨u, v, eq u hu, eq v hv, eq _ (hu.tzip op hv), e ▸ hu, e ▸ hv⟩
  · have hne : (D == kd) = false := Bool.eq_false_iff.mpr he
    have red : ∀ w : Tensor S, Shaped D w → flattenTo w kd = .ok (sumBroadcast w kd) := fun w hw =>
      flattenTo_spec w kd (hw.wf hD) (by rw [hw.1]; exact hne) (by rw [hw.1]; exact hfit) hk
    refine ⟨_, _, red u hu, red v hv, ?_, sumBroadcast_shaped u kd, sumBroadcast_shaped v kd⟩
    rw [← sumBroadcast_op h0 h4 u v kd (hu.1.trans hv.1.symm) (by rw [hu.2, hv.2])]
    exact red _ (hu.tzip op hv)

variable [AddLaws S]

theorem sumBroadcast_add (u v : Tensor S) (dims : List Nat) (hd : u.dims = v.dims) (hl : u.vals.length = v.vals.length) :
    sumBroadcast (tadd u v) dims = tadd (sumBroadcast u dims) (sumBroadcast v dims) :=
  sumBroadcast_op (AddLaws.zero_add _) add4 u v dims hd hl

theorem flatten_additive (D kd : List Nat) (hD : ∀ d ∈ D, 1 ≤ d) (hk : ∀ d ∈ kd, 1 ≤ d) (hfit : Fits kd D = true)
    (u v : Tensor S) (hu : Shaped D u) (hv : Shaped D v) :
    ∃ t1 t2, flattenTo u kd = .ok t1 ∧ flattenTo v kd = .ok t2 ∧ flattenTo (tadd u v) kd = .ok (tadd t1 t2) ∧
      Shaped kd t1 ∧ Shaped kd t2 :=
  flatten_op (AddLaws.zero_add _) add4 D kd hD hk hfit u v hu hv

end op

/-- one entry of a closure as a total additive map: on deltas of shape `nd` the computation `g` answers
    with `L x`, of shape `D`, additively; `D` reduces to the operand's shape `kd` -/
structure LinEntry (g : Tensor S → R (Tensor S)) (nd kd : List Nat) : Prop where
  ex : ∃ (D : List Nat) (L : Tensor S → Tensor S), (∀ d ∈ D, 1 ≤ d) ∧ (∀ d ∈ kd, 1 ≤ d) ∧ Fits kd D = true ∧
    (∀ x, Shaped nd x → g x = .ok (L x) ∧ Shaped D (L x)) ∧
    (∀ x y, Shaped nd x → Shaped nd y → L (tadd x y) = tadd (L x) (L y)) ∧
    (∀ (α : S) x, Shaped nd x → L (tsmul α x) = tsmul α (L x))

theorem LinEntry.total {g : Tensor S → R (Tensor S)} {nd kd : List Nat} (h : LinEntry g nd kd) :
    ∃ L : Tensor S → Tensor S, ∀ x, Shaped nd x → g x = .ok (L x) :=
  h.ex.elim fun _ hD => hD.elim fun L hL => ⟨L, fun x hx => (hL.2.2.2.1 x hx).1⟩

section entries
variable [AddLaws S] [MulLaws S] [CommLaws S]

theorem LinEntry.of_op {g : Tensor S → R (Tensor S)} {nd kd : List Nat} (D : List Nat) (L : Tensor S → Tensor S)
    (hD : ∀ d ∈ D, 1 ≤ d) (hk : ∀ d ∈ kd, 1 ≤ d) (hfit : Fits kd D = true)
    (hg : ∀ x, Shaped nd x → g x = .ok (L x) ∧ Shaped D (L x))
    (hL : ∀ op : S → S → S, LinOp op → ∀ x y, Shaped nd x → Shaped nd y → L (tzip op x y) = tzip op (L x) (L y)) :
    LinEntry g nd kd := by
  refine ⟨D, L, hD, hk, hfit, hg, hL _ .add, fun α x hx => ?_⟩
  have := hL _ (.smul α) x x hx hx
  rwa [tzip_smul α x x rfl, tzip_smul α _ _ rfl] at this

theorem flatten_smul (α : S) (D kd : List Nat) (hD : ∀ d ∈ D, 1 ≤ d) (hk : ∀ d ∈ kd, 1 ≤ d) (hfit : Fits kd D = true)
    (u : Tensor S) (hu : Shaped D u) :
    ∃ t1, flattenTo u kd = .ok t1 ∧ flattenTo (tsmul α u) kd = .ok (tsmul α t1) := by
  obtain ⟨t1, t2, f1, f2, f3, _, _⟩ :=
    flatten_op (op := fun a _ => α * a) (LinOp.smul α).zero (LinOp.smul α).medial D kd hD hk hfit u u hu hu
  cases Except.ok.inj (f1.symm.trans f2)
  rw [tzip_smul α u u rfl, tzip_smul α t1 t1 rfl] at f3
  exact ⟨t1, f1, f3⟩

/-- how `VjpLin` reads an entry -/
theorem LinEntry.use_add {g : Tensor S → R (Tensor S)} {nd kd : List Nat} (h : LinEntry g nd kd) (x y : Tensor S)
    (hx : Shaped nd x) (hy : Shaped nd y) :
    ∃ d1 d2 d3 t1 t2, g x = .ok d1 ∧ g y = .ok d2 ∧ g (tadd x y) = .ok d3 ∧
      flattenTo d1 kd = .ok t1 ∧ flattenTo d2 kd = .ok t2 ∧ flattenTo d3 kd = .ok (tadd t1 t2) ∧
      Shaped kd t1 ∧ Shaped kd t2 := by
  obtain ⟨D, L, hD, hk, hfit, hg, hadd, _⟩ := h.ex
  obtain ⟨g1, s1⟩ := hg x hx
  obtain ⟨g2, s2⟩ := hg y hy
  obtain ⟨t1, t2, f1, f2, f3, q⟩ := flatten_additive D kd hD hk hfit (L x) (L y) s1 s2
  exact ⟨L x, L y, _, t1, t2, g1, g2, (hg _ (hx.tadd hy)).1, f1, f2, hadd x y hx hy ▸ f3, q⟩

/-- how `VjpHom` reads it -/
theorem LinEntry.use_smul {g : Tensor S → R (Tensor S)} {nd kd : List Nat} (h : LinEntry g nd kd) (α : S) (x : Tensor S)
    (hx : Shaped nd x) :
    ∃ d1 d3 t1, g x = .ok d1 ∧ g (tsmul α x) = .ok d3 ∧ flattenTo d1 kd = .ok t1 ∧
      flattenTo d3 kd = .ok (tsmul α t1) := by
  obtain ⟨D, L, hD, hk, hfit, hg, _, hsm⟩ := h.ex
  obtain ⟨g1, s1⟩ := hg x hx
  obtain ⟨t1, f1, f3⟩ := flatten_smul α D kd hD hk hfit (L x) s1
  exact ⟨L x, _, t1, g1, (hg _ (hx.tsmul α)).1, f1, hsm α x hx ▸ f3⟩

end entries

end Corgi
