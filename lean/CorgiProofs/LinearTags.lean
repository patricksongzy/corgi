/-
  How a closure of `Vjp.lean` is shown total, shape-correct and linear (`VjpLinear`): answer by answer.  The answer for
  a tracked operand is a `LinEntry` (a total map into a shape that reduces to the operand's, commuting with both
  operations) behind the operand's flag (`LinSlot`); the closures of `Vjp.lean` are one unconditional answer or a
  bind of one, two or three slots (`vjpLin_unary`, `vjpLin_slots1/2/3`).  Then the entries the point-wise closures
  are made of, and the closures of add, mul, div and reshape.
-/
import CorgiProofs.Linear
import CorgiProofs.VjpEqns
import CorgiModel.Engine

set_option linter.unusedSectionVars false
set_option linter.unusedVariables false

namespace Corgi
variable {S : Type} [Add S] [Mul S] [Neg S] [Sub S] [ScalarOps S] [BEq S]

theorem specEwise_shaped (f : S → S → S) (a b : Tensor S) : Shaped (bdims a.dims b.dims) (specEwise f a b) :=
  ⟨rfl, (List.length_map _).trans List.length_range⟩

section ewise
variable {op : S → S → S} (h0 : op zero zero = zero)
include h0

theorem specEwise_op_right (f : S → S → S) (hf : ∀ a p q, f a (op p q) = op (f a p) (f a q))
    (c x y : Tensor S) (hd : x.dims = y.dims) (hl : x.vals.length = y.vals.length) :
    specEwise f c (tzip op x y) = tzip op (specEwise f c x) (specEwise f c y) := by
  have e1 : (tzip op x y).dims = x.dims := rfl
  simp only [specEwise, specEwise', e1, ← hd, tzip_ofFn]
  congr 1
  funext idx
  rw [tzip_get h0 x y hd hl, hf]

theorem specEwise_op_left (f : S → S → S) (hf : ∀ p q a, f (op p q) a = op (f p a) (f q a))
    (c x y : Tensor S) (hd : x.dims = y.dims) (hl : x.vals.length = y.vals.length) :
    specEwise f (tzip op x y) c = tzip op (specEwise f x c) (specEwise f y c) := by
  have e1 : (tzip op x y).dims = x.dims := rfl
  simp only [specEwise, specEwise', e1, ← hd, tzip_ofFn]
  congr 1
  funext idx
  rw [tzip_get h0 x y hd hl, hf]

end ewise

theorem zipWith_op (op : S → S → S) (f : S → S → S) (hf : ∀ a p q, f a (op p q) = op (f a p) (f a q))
    (k u v : List S) :
    List.zipWith f k (List.zipWith op u v) = List.zipWith op (List.zipWith f k u) (List.zipWith f k v) := by
  induction k generalizing u v with
  | nil => rfl
  | cons a k ih =>
    cases u with
    | nil => rfl
    | cons p u =>
      cases v with
      | nil => rfl
      | cons q v =>
        show f a (op p q) :: _ = op (f a p) (f a q) :: _
        rw [hf, ih u v]

/-- a valid dimension list for a node or an operand -/
def DimsOK (d : List Nat) : Prop := d ≠ [] ∧ ∀ k ∈ d, 1 ≤ k

/-- a well-formed stored operand of rank ≥ 1 -/
def OperandOK (a : Tensor S) : Prop := a.WF ∧ a.dims ≠ []

theorem OperandOK.dimsOK {a : Tensor S} (h : OperandOK a) : DimsOK a.dims := ⟨h.2, h.1.1⟩

theorem Shaped.operandOK {d : List Nat} {K : Tensor S} (h : Shaped d K) (hd : DimsOK d) : OperandOK K :=
  ⟨h.wf hd.2, h.1 ▸ hd.1⟩

theorem OperandOK.bdims {a b : Tensor S} (ha : OperandOK a) (hb : OperandOK b) (hc : Compat a.dims b.dims = true) :
    DimsOK (bdims a.dims b.dims) ∧ Fits a.dims (bdims a.dims b.dims) = true ∧
      Fits b.dims (bdims a.dims b.dims) = true :=
  ⟨⟨bdims_ne_nil _ _ ha.2, bdims_pos _ _ ha.1.1 hb.1.1⟩, Fits_bdims_left _ _ ha.1.1 hc, Fits_bdims_right _ _ hb.1.1 hc⟩

def VjpLinear (cl : Closure S) (t : List Bool) (nd : List Nat) (kd : List (List Nat)) : Prop :=
  VjpLin cl t nd kd ∧ ∀ α : S, VjpHom α cl t nd kd

/-- the answers `os x` are, at every tracked position, what a `LinEntry` into the operand's dimensions computes -/
def Entries (nd : List Nat) (t : List Bool) (kd : List (List Nat)) (os : Tensor S → List (Option (Tensor S))) : Prop :=
  ∀ i : Nat, t[i]? = some true → ∃ kdi g, kd[i]? = some kdi ∧ LinEntry g nd kdi ∧
    ∀ x d, Shaped nd x → g x = .ok d → (os x)[i]? = some (some d)

theorem Entries.nil {nd : List Nat} : Entries nd [] [] (fun _ => ([] : List (Option (Tensor S)))) :=
  fun i hi => by simp at hi

theorem Entries.cons {nd k : List Nat} {f : Bool} {o : Tensor S → Option (Tensor S)} {t : List Bool} {kd : List (List Nat)}
    {os : Tensor S → List (Option (Tensor S))}
    (h : f = true → ∃ g, LinEntry g nd k ∧ ∀ x d, Shaped nd x → g x = .ok d → o x = some d)
    (hr : Entries nd t kd os) : Entries nd (f :: t) (k :: kd) (fun x => o x :: os x) := by
  intro i hi
  cases i with
  | zero =>
    obtain ⟨g, hg, ho⟩ := h (Option.some.inj hi)
    exact ⟨k, g, rfl, hg, fun x d hx e => congrArg some (ho x d hx e)⟩
  | succ i => exact hr i hi

/-- one slot of a closure: on deltas of shape `nd` the computation `E` answers `o x`, which for a tracked
    operand is what a `LinEntry` computes -/
def LinSlot (E : Tensor S → R (Option (Tensor S))) (f : Bool) (nd kd : List Nat) : Prop :=
  ∃ o : Tensor S → Option (Tensor S), (∀ x, Shaped nd x → E x = .ok (o x)) ∧
    (f = true → ∃ g, LinEntry g nd kd ∧ ∀ x d, Shaped nd x → g x = .ok d → o x = some d)

theorem LinSlot.whenT {f : Bool} {g : Tensor S → R (Tensor S)} {nd kd : List Nat} (h : f = true → LinEntry g nd kd) :
    LinSlot (fun x => whenT f (g x)) f nd kd := by
  cases f with
  | false => exact ⟨fun _ => none, fun _ _ => rfl, nofun⟩
  | true =>
    obtain ⟨L, hL⟩ := (h rfl).total
    exact ⟨fun x => some (L x), fun x hx => (congrArg (Corgi.whenT true) (hL x hx)).trans (whenT_ok _),
      fun _ => ⟨g, h rfl, fun x d hx e => congrArg some (Except.ok.inj ((hL x hx).symm.trans e))⟩⟩

variable [AddLaws S] [MulLaws S] [CommLaws S]

theorem vjpLinear_of_entries {cl : Closure S} {t : List Bool} {nd : List Nat}
    {kd : List (List Nat)} (os : Tensor S → List (Option (Tensor S)))
    (hcl : ∀ x, Shaped nd x → cl t x = .ok (os x)) (h : Entries nd t kd os) : VjpLinear cl t nd kd := by
  constructor
  · intro x y hx hy
    refine ⟨_, _, _, hcl x hx, hcl y hy, hcl _ (hx.tadd hy), fun i hi => ?_⟩
    obtain ⟨kdi, g, hk, hg, ho⟩ := h i hi
    obtain ⟨d1, d2, d3, t1, t2, g1, g2, g3, r⟩ := hg.use_add x y hx hy
    exact ⟨kdi, d1, d2, d3, t1, t2, hk, ho x d1 hx g1, ho y d2 hy g2, ho _ d3 (hx.tadd hy) g3, r⟩
  · intro α x hx
    refine ⟨_, _, hcl x hx, hcl _ (hx.tsmul α), fun i hi => ?_⟩
    obtain ⟨kdi, g, hk, hg, ho⟩ := h i hi
    obtain ⟨d1, d3, t1, g1, g3, f1, f3⟩ := hg.use_smul α x hx
    exact ⟨kdi, d1, d3, t1, hk, ho x d1 hx g1, ho _ d3 (hx.tsmul α) g3, f1, f3⟩

theorem linEntry_id (nd kd : List Nat) (hnd : ∀ d ∈ nd, 1 ≤ d) (hkd : ∀ d ∈ kd, 1 ≤ d) (hfit : Fits kd nd = true) :
    LinEntry (fun x : Tensor S => .ok x) nd kd :=
  .of_op nd id hnd hkd hfit (fun x hx => ⟨rfl, hx⟩) (fun _ _ _ _ _ _ => rfl)

theorem LinSlot.pass (f : Bool) (nd kd : List Nat) (hnd : ∀ d ∈ nd, 1 ≤ d) (hkd : ∀ d ∈ kd, 1 ≤ d) (hfit : Fits kd nd = true) :
    LinSlot (fun x : Tensor S => .ok (if f then some x else none)) f nd kd :=
  ⟨fun x => if f then some x else none, fun _ _ => rfl, fun hf =>
    ⟨_, linEntry_id nd kd hnd hkd hfit, fun x d _ e => by subst hf; exact congrArg some (Except.ok.inj e)⟩⟩

theorem vjpLin_unary {cl : Closure S} {f0 : Bool} {nd k0 : List Nat} (g : Tensor S → R (Tensor S))
    (hcl : ∀ x, cl [f0] x = (g x >>= fun r => .ok [some r])) (h : LinEntry g nd k0) : VjpLinear cl [f0] nd [k0] := by
  obtain ⟨L, hL⟩ := h.total
  exact vjpLinear_of_entries (fun x => [some (L x)]) (fun x hx => by rw [hcl, hL x hx]; rfl)
    (.cons (fun _ => ⟨g, h, fun x d hx e => congrArg some (Except.ok.inj ((hL x hx).symm.trans e))⟩) .nil)

theorem vjpLin_slots1 {cl : Closure S} {f0 : Bool} {nd k0 : List Nat} {E0 : Tensor S → R (Option (Tensor S))}
    (hcl : ∀ x, cl [f0] x = (E0 x >>= fun u => .ok [u])) (h0 : LinSlot E0 f0 nd k0) : VjpLinear cl [f0] nd [k0] := by
  obtain ⟨o0, e0, l0⟩ := h0
  exact vjpLinear_of_entries (fun x => [o0 x]) (fun x hx => by rw [hcl, e0 x hx]; rfl) (.cons l0 .nil)

theorem vjpLin_slots2 {cl : Closure S} {f0 f1 : Bool} {nd k0 k1 : List Nat} {E0 E1 : Tensor S → R (Option (Tensor S))}
    (hcl : ∀ x, cl [f0, f1] x = (E0 x >>= fun u => E1 x >>= fun v => .ok [u, v]))
    (h0 : LinSlot E0 f0 nd k0) (h1 : LinSlot E1 f1 nd k1) : VjpLinear cl [f0, f1] nd [k0, k1] := by
  obtain ⟨o0, e0, l0⟩ := h0
  obtain ⟨o1, e1, l1⟩ := h1
  exact vjpLinear_of_entries (fun x => [o0 x, o1 x]) (fun x hx => by rw [hcl, e0 x hx, e1 x hx]; rfl)
    (.cons l0 (.cons l1 .nil))

theorem vjpLin_slots3 {cl : Closure S} {f0 f1 f2 : Bool} {nd k0 k1 k2 : List Nat}
    {E0 E1 E2 : Tensor S → R (Option (Tensor S))}
    (hcl : ∀ x, cl [f0, f1, f2] x = (E0 x >>= fun u => E1 x >>= fun v => E2 x >>= fun w => .ok [u, v, w]))
    (h0 : LinSlot E0 f0 nd k0) (h1 : LinSlot E1 f1 nd k1) (h2 : LinSlot E2 f2 nd k2) :
    VjpLinear cl [f0, f1, f2] nd [k0, k1, k2] := by
  obtain ⟨o0, e0, l0⟩ := h0
  obtain ⟨o1, e1, l1⟩ := h1
  obtain ⟨o2, e2, l2⟩ := h2
  exact vjpLinear_of_entries (fun x => [o0 x, o1 x, o2 x]) (fun x hx => by rw [hcl, e0 x hx, e1 x hx, e2 x hx]; rfl)
    (.cons l0 (.cons l1 (.cons l2 .nil)))

theorem linEntry_ewise_right (f : S → S → S)
    (hf : ∀ op : S → S → S, LinOp op → ∀ a p q, f a (op p q) = op (f a p) (f a q))
    (c : Tensor S) (nd kd : List Nat) (hc : OperandOK c) (hnd : DimsOK nd)
    (hcf : Fits c.dims nd = true) (hkd : ∀ d ∈ kd, 1 ≤ d) (hfit : Fits kd nd = true) :
    LinEntry (fun x => ewise f c x) nd kd := by
  obtain ⟨hcompat, hb⟩ := Fits_absorb hnd.2 hcf
  refine .of_op nd (fun x => specEwise f c x) hnd.2 hkd hfit (fun x hx => ⟨?_, ?_⟩) (fun op hop x y hx hy => ?_)
  · exact ewise_spec f c x hc.1 (hx.wf hnd.2) hc.2 (by rw [hx.1]; exact hnd.1) (by rw [hx.1]; exact hcompat)
  · have := specEwise_shaped f c x
    rwa [hx.1, hb] at this
  · exact specEwise_op_right hop.zero f (hf op hop) c x y (hx.1.trans hy.1.symm) (by rw [hx.2, hy.2])

theorem linEntry_ewise_left (f : S → S → S)
    (hf : ∀ op : S → S → S, LinOp op → ∀ p q a, f (op p q) a = op (f p a) (f q a))
    (c : Tensor S) (nd kd : List Nat) (hc : OperandOK c) (hnd : DimsOK nd)
    (hcf : Fits c.dims nd = true) (hkd : ∀ d ∈ kd, 1 ≤ d) (hfit : Fits kd nd = true) :
    LinEntry (fun x => ewise f x c) nd kd := by
  obtain ⟨hcompat, hb⟩ := Fits_absorb_left hnd.2 hcf
  refine .of_op nd (fun x => specEwise f x c) hnd.2 hkd hfit (fun x hx => ⟨?_, ?_⟩) (fun op hop x y hx hy => ?_)
  · exact ewise_spec f x c (hx.wf hnd.2) hc.1 (by rw [hx.1]; exact hnd.1) hc.2 (by rw [hx.1]; exact hcompat)
  · have := specEwise_shaped f x c
    rwa [hx.1, hb] at this
  · exact specEwise_op_left hop.zero f (hf op hop) c x y (hx.1.trans hy.1.symm) (by rw [hx.2, hy.2])

theorem linEntry_scale (s : S) (nd : List Nat) (hnd : ∀ d ∈ nd, 1 ≤ d) :
    LinEntry (fun x => (pure (mapT (· * s) x) : R (Tensor S))) nd nd :=
  .of_op nd (mapT (· * s)) hnd hnd (Fits_refl nd) (fun x hx => ⟨rfl, hx.1, (List.length_map _).trans hx.2⟩)
    (fun op hop x y _ _ => mapT_op op _ (fun p q => hop.mul_right p q s) x y)

/-- `mul_values` with a constant buffer `k` -/
theorem linEntry_zipWith (f : S → S → S)
    (hf : ∀ op : S → S → S, LinOp op → ∀ a p q, f a (op p q) = op (f a p) (f a q))
    (k : List S) (nd : List Nat) (hnd : ∀ d ∈ nd, 1 ≤ d) (hk : k.length = prod nd) :
    LinEntry (fun x => Tensor.mk? nd (List.zipWith f k x.vals)) nd nd := by
  refine .of_op nd (fun x => ⟨nd, List.zipWith f k x.vals⟩) hnd hnd (Fits_refl nd) (fun x hx => ?_)
    (fun op hop x y _ _ => by simp only [tzip, zipWith_op op f (hf op hop)])
  have hlen : (List.zipWith f k x.vals).length = prod nd := by rw [List.length_zipWith, hk, hx.2, Nat.min_self]
  exact ⟨Tensor.mk?_ok hnd hlen.symm, rfl, hlen⟩

theorem mapT_shaped (φ : S → S) (a : Tensor S) (h : a.WF) : Shaped a.dims (mapT φ a) :=
  ⟨rfl, (List.length_map φ).trans h.2.symm⟩

theorem vjp_lin_add (a b self : Tensor S) (f0 f1 : Bool) (ha : OperandOK a) (hb : OperandOK b)
    (hc : Compat a.dims b.dims = true) :
    VjpLinear (vjp .add [a, b] self) [f0, f1] (bdims a.dims b.dims) [a.dims, b.dims] :=
  have ⟨hnd, hfa, hfb⟩ := ha.bdims hb hc
  vjpLin_slots2 (fun x => rfl) (.pass f0 _ _ hnd.2 ha.1.1 hfa) (.pass f1 _ _ hnd.2 hb.1.1 hfb)

theorem vjp_lin_mul (a b self : Tensor S) (f0 f1 : Bool) (ha : OperandOK a) (hb : OperandOK b)
    (hc : Compat a.dims b.dims = true) :
    VjpLinear (vjp .mul [a, b] self) [f0, f1] (bdims a.dims b.dims) [a.dims, b.dims] := by
  obtain ⟨hnd, hfa, hfb⟩ := ha.bdims hb hc
  exact vjpLin_slots2 (E0 := fun x => whenT f0 (mul b x)) (E1 := fun x => whenT f1 (mul a x))
    (fun x => vjp_mul a b [] self f0 f1 [] x)
    (.whenT fun _ => linEntry_ewise_right (· * ·) (fun _ hop => hop.mul_left) b _ _ hb hnd hfb ha.1.1 hfa)
    (.whenT fun _ => linEntry_ewise_right (· * ·) (fun _ hop => hop.mul_left) a _ _ ha hnd hfa hb.1.1 hfb)

theorem vjp_lin_div (a b self : Tensor S) (f0 f1 : Bool) (ha : OperandOK a) (hb : OperandOK b)
    (hc : Compat a.dims b.dims = true) :
    VjpLinear (vjp .div [a, b] self) [f0, f1] (bdims a.dims b.dims) [a.dims, b.dims] := by
  obtain ⟨hnd, hfa, hfb⟩ := ha.bdims hb hc
  -- the constant factor of the second entry
  have hq : div (neg a) (powf b (one + one)) = .ok (specEwise ScalarOps.div (neg a) (powf b (one + one))) :=
    ewise_spec _ _ _ (mapT_wf _ a ha.1) (mapT_wf _ b hb.1) ha.2 hb.2 hc
  generalize hQ : specEwise ScalarOps.div (neg a) (powf b (one + one)) = Q at hq
  have hQs : Shaped (bdims a.dims b.dims) Q := by
    rw [← hQ]; exact specEwise_shaped _ (neg a) (powf b (one + one))
  have hg : (fun x => div (neg a) (powf b (one + one)) >>= fun q => mul q x) = fun x => mul Q x := by
    rw [hq]; rfl
  refine vjpLin_slots2 (E0 := fun x => whenT f0 (div x b))
    (E1 := fun x => whenT f1 (div (neg a) (powf b (one + one)) >>= fun q => mul q x))
    (fun x => vjp_div a b [] self f0 f1 [] x) (.whenT fun _ => ?_) (.whenT fun _ => ?_)
  · exact linEntry_ewise_left ScalarOps.div (fun _ hop => hop.div) b _ _ hb hnd hfb ha.1.1 hfa
  · rw [hg]
    exact linEntry_ewise_right (· * ·) (fun _ hop => hop.mul_left) Q _ _ (hQs.operandOK hnd) hnd
      (hQs.1.symm ▸ Fits_refl _) hb.1.1 hfb

theorem vjp_lin_constmul (cl : Closure S) (K a : Tensor S) (f0 : Bool) (ha : OperandOK a) (hK : Shaped a.dims K)
    (hcl : ∀ x, cl [f0] x = (mul K x >>= fun r => .ok [some r])) : VjpLinear cl [f0] a.dims [a.dims] :=
  vjpLin_unary (fun x => mul K x) hcl
    (linEntry_ewise_right (· * ·) (fun _ hop => hop.mul_left) K _ _ (hK.operandOK ha.dimsOK) ha.dimsOK
      (hK.1.symm ▸ Fits_refl _) ha.1.1 (Fits_refl _))

theorem vjp_lin_reshape (a self : Tensor S) (nd : List Nat) (f0 : Bool) (ha : OperandOK a)
    (hp : prod nd = prod a.dims) : VjpLinear (vjp .reshape [a] self) [f0] nd [a.dims] := by
  refine vjpLin_slots1 (E0 := fun x => whenT f0 (reshape x a.dims)) (fun x => rfl) (.whenT fun _ => ?_)
  refine .of_op a.dims (fun x => ⟨a.dims, x.vals⟩) ha.1.1 ha.1.1 (Fits_refl _) (fun x hx => ?_) (fun _ _ _ _ _ _ => rfl)
  have h2 : prod a.dims = x.vals.length := by rw [hx.2, hp]
  exact ⟨by rw [reshape, Tensor.mk?_ok ha.1.1 h2], rfl, h2.symm⟩

end Corgi
