/-
  CorgiProofs.Conv — `conv` equals the sliding-window definition (C06): unroll (im2col) ∘ matmul with
  the filter matrix ∘ per-image transposition, for every batch shape, depth, image / filter size and
  stride.  Each stage is stated element by element (`unroll_get`, `specMatmul_get`, `filter_get`, `expand_get`),
  so that `conv_spec` composes them at one output index.
-/
import CorgiProofs.Matmul
import CorgiProofs.Sums

set_option linter.unusedSectionVars false
set_option linter.unusedVariables false

namespace Corgi

/-- the code's position `col + C·(row + R·k)` inside an image `[D, R, C]` is the row-major position of `[k, row, col]` -/
theorem window_pos (col C row R k : Nat) : col + C * (row + R * k) = k * (R * C) + row * C + col := by
  simp only [Nat.mul_add, Nat.mul_comm, Nat.mul_left_comm, Nat.add_comm]

theorem idx3_lt (col C row R k D : Nat) (h1 : col < C) (h2 : row < R) (h3 : k < D) :
    col + C * (row + R * k) < D * R * C := by
  have hx : k * R + row < D * R := idx2_lt k D row R h3 h2
  have := idx2_lt (k * R + row) (D * R) col C hx h1
  rw [Nat.mul_comm C, Nat.add_comm col, Nat.add_comm row, Nat.mul_comm R k]
  exact this

/-- the last window still fits -/
theorem window_fits (n f s c C : Nat) (hn : n < f) (hf : f ≤ C) (hc : c < (C - f) / s + 1) : n + s * c < C :=
  calc n + s * c < f + (C - f) :=
        Nat.add_lt_add_of_lt_of_le hn (Nat.le_trans (Nat.mul_le_mul_left s (Nat.le_of_lt_succ hc)) (Nat.mul_div_le _ _))
    _ = C := Nat.add_sub_cancel' hf

theorem unrollIdx_lt (C R D sr sc fr fc : Nat) (o : Nat) (hfr : fr ≤ R) (hfc : fc ≤ C) (hfr1 : 1 ≤ fr) (hfc1 : 1 ≤ fc)
    (hD : 1 ≤ D)
    (ho : o < (((R - fr) / sr + 1) * ((C - fc) / sc + 1)) * D * (fr * fc)) :
    unrollIdx C R D sr sc fr fc ((C - fc) / sc + 1) o < D * R * C := by
  unfold unrollIdx
  have hoC : 0 < (C - fc) / sc + 1 := Nat.succ_pos _
  have hr : o / (fc * fr * D * ((C - fc) / sc + 1)) < (R - fr) / sr + 1 :=
    Nat.div_lt_of_lt_mul (Nat.lt_of_lt_of_eq ho (by ac_rfl))
  exact idx3_lt _ _ _ _ _ _ (window_fits _ fc sc _ C (Nat.mod_lt _ hfc1) hfc (Nat.mod_lt _ hoC))
    (window_fits _ fr sr _ R (Nat.mod_lt _ hfr1) hfr hr) (Nat.mod_lt _ hD)

/-- the patch position `(w, k, mm, nn)` is read from `image[k, mm + sr·(w / oC), nn + sc·(w % oC)]` -/
theorem unrollIdx_decomp (C R D sr sc fr fc oC w k mm nn : Nat) (hk : k < D) (hmm : mm < fr) (hnn : nn < fc) :
    unrollIdx C R D sr sc fr fc oC (w * (D * (fr * fc)) + (k * (fr * fc) + mm * fc + nn))
      = (nn + sc * (w % oC)) + C * ((mm + sr * (w / oC)) + R * k) := by
  have e : w * (D * (fr * fc)) + (k * (fr * fc) + mm * fc + nn) = ((w * D + k) * fr + mm) * fc + nn := by
    simp only [Nat.add_mul, Nat.mul_assoc, Nat.add_assoc]
  rw [e]
  unfold unrollIdx
  obtain ⟨d1, m1⟩ := dm ((w * D + k) * fr + mm) fc nn hnn
  obtain ⟨d2, m2⟩ := dm (w * D + k) fr mm hmm
  obtain ⟨d3, m3⟩ := dm w D k hk
  have q2 : (((w * D + k) * fr + mm) * fc + nn) / (fc * fr) = w * D + k := by
    rw [← Nat.div_div_eq_div_mul, d1, d2]
  have q3 : (((w * D + k) * fr + mm) * fc + nn) / (fc * fr * D) = w := by
    rw [← Nat.div_div_eq_div_mul, q2, d3]
  have q4 : (((w * D + k) * fr + mm) * fc + nn) / (fc * fr * D * oC) = w / oC := by
    rw [← Nat.div_div_eq_div_mul, q3]
  simp only [m1, d1, m2, q2, m3, q3, q4]

/-- inside `n` images of `p·q` values each, the transposed position of `o` stays inside `o`'s image -/
theorem transposed_lt (n p q o : Nat) (ho : o < n * (p * q)) :
    o / (p * q) * (p * q) + (o % (p * q) % p * q + o % (p * q) / p) < n * (p * q) := by
  have hL : 0 < p * q := Nat.pos_of_ne_zero (fun h0 => by rw [h0] at ho; exact Nat.not_lt_zero _ ho)
  have hp : 0 < p := Nat.pos_of_mul_pos_right hL
  exact idx2_lt _ _ _ _ ((Nat.div_lt_iff_lt_mul hL).mpr ho)
    (idx2_lt _ _ _ _ (Nat.mod_lt _ hp) ((Nat.div_lt_iff_lt_mul hp).mpr (Nat.mul_comm p q ▸ Nat.mod_lt _ hL)))

theorem unflatten_append3 (L : List Nat) (a b c q i j l : Nat) (hpos : ∀ d ∈ L, 1 ≤ d) (hi : i < a) (hj : j < b)
    (hl : l < c) (hq : q < prod L) :
    unflatten (L ++ [a, b, c]) (((q * a + i) * b + j) * c + l) = unflatten L q ++ [i, j, l] := by
  rw [← unflatten_rowMajor (inRange_append _ _ _ _ (unflatten_inRange hpos hq) (inRange3 hi hj hl)),
    rowMajor_append _ _ _ _ (unflatten_length _ _), rowMajor_unflatten hq, prod3, rowMajor_cons, rowMajor2, prod2]
  congr 1
  simp only [Nat.add_mul, Nat.mul_assoc, Nat.add_assoc]

variable {S : Type} [Add S] [Mul S] [Neg S] [Sub S] [ScalarOps S]

/-- im2col in buffer positions: per image and window position (row-major), the window's `depth × fr × fc` patch -/
theorem unroll_flat (B : List Nat) (D R C sr sc fr fc : Nat) (iv : List S)
    (hposB : ∀ d ∈ B, 1 ≤ d) (hD : 1 ≤ D) (hR : 1 ≤ R) (hC : 1 ≤ C)
    (hlen : iv.length = prod B * (D * R * C))
    (hfr : fr ≤ R) (hfc : fc ≤ C) (hfr1 : 1 ≤ fr) (hfc1 : 1 ≤ fc) (hsr : 1 ≤ sr) (hsc : 1 ≤ sc) :
    unrollBlocks (⟨B ++ [D, R, C], iv⟩ : Tensor S) sr sc fr fc
      = .ok ⟨B ++ [((R - fr) / sr + 1) * ((C - fc) / sc + 1), D * (fr * fc)],
          (List.range (prod B * ((((R - fr) / sr + 1) * ((C - fc) / sc + 1)) * D * (fr * fc)))).map (fun p =>
            iv.getD (p / ((((R - fr) / sr + 1) * ((C - fc) / sc + 1)) * D * (fr * fc)) * (D * R * C)
              + unrollIdx C R D sr sc fr fc ((C - fc) / sc + 1)
                  (p % ((((R - fr) / sr + 1) * ((C - fc) / sc + 1)) * D * (fr * fc)))) zero)⟩ := by
  generalize hoR : (R - fr) / sr + 1 = oR
  generalize hoC : (C - fc) / sc + 1 = oC
  have hoR1 : 1 ≤ oR := hoR ▸ Nat.succ_pos _
  have hoC1 : 1 ≤ oC := hoC ▸ Nat.succ_pos _
  have hP1 : 1 ≤ D * (fr * fc) := Nat.mul_pos hD (Nat.mul_pos hfr1 hfc1)
  have hG : 0 < oR * oC * D * (fr * fc) := by rw [Nat.mul_assoc]; exact Nat.mul_pos (Nat.mul_pos hoR1 hoC1) hP1
  have c1 : (decide (R < fr) || decide (C < fc)) = false := by simp [Nat.not_lt.mpr hfr, Nat.not_lt.mpr hfc]
  have c2 : (decide (sr = 0) || decide (sc = 0)) = false := by simp [Nat.ne_of_gt hsr, Nat.ne_of_gt hsc]
  have hidx : ∀ o, o < oR * oC * D * (fr * fc) → unrollIdx C R D sr sc fr fc oC o < prod [D, R, C] := fun o ho => by
    rw [prod3, ← hoC]
    exact unrollIdx_lt C R D sr sc fr fc o hfr hfc hfr1 hfc1 hD (by rw [hoR, hoC]; exact ho)
  unfold unrollBlocks
  simp only [dimFromEnd_snoc3_3, dimFromEnd_snoc3_2, dimFromEnd_snoc3_1, c1, c2, ok_bind, Bool.false_eq_true, if_false,
    take_snoc3, hoR, hoC]
  -- every image is one block, gathered through `unrollIdx`
  rw [slicedOp_own ⟨B ++ [D, R, C], iv⟩ _ B [D, R, C] [oR * oC, D * (fr * fc)] _ 3 0
      (fun blk => (List.range (oR * oC * D * (fr * fc))).map fun o => blk.getD (unrollIdx C R D sr sc fr fc oC o) zero)
      rfl (length_snoc3_sub B D R C) (by rw [hlen, prod_append, prod3]) hposB
      (pos_append2 (l := []) (fun _ h => nomatch h) (Nat.mul_pos hoR1 hoC1) hP1)
      rfl fun blk hblk => ⟨tabulateM_ok _ _ _ fun o ho => getR_ok _ _ _ (getElem?_getD blk _ (hblk ▸ hidx o ho)),
        by rw [List.length_map, List.length_range, prod2, Nat.mul_assoc]⟩,
    flatten_range_divmod]
  refine congrArg (fun v => (Except.ok ⟨_, v⟩ : Corgi.R (Tensor S))) (List.map_congr_left fun p _ => ?_)
  rw [getD_block _ _ _ _ (hidx _ (Nat.mod_lt _ hG)), prod3]

theorem unroll_get (B : List Nat) (D R C sr sc fr fc oR oC : Nat) (iv : List S)
    (hposB : ∀ d ∈ B, 1 ≤ d) (hD : 1 ≤ D)
    (hlen : iv.length = prod B * (D * R * C))
    (hfr : fr ≤ R) (hfc : fc ≤ C) (hfr1 : 1 ≤ fr) (hfc1 : 1 ≤ fc) (hsr : 1 ≤ sr) (hsc : 1 ≤ sc)
    (hoR : (R - fr) / sr + 1 = oR) (hoC : (C - fc) / sc + 1 = oC) :
    ∃ u : Tensor S, unrollBlocks (⟨B ++ [D, R, C], iv⟩ : Tensor S) sr sc fr fc = .ok u ∧
      u.dims = B ++ [oR * oC, D * (fr * fc)] ∧ u.WF ∧
      ∀ I y x k mm nn, inRange B I = true → y < oR → x < oC → k < D → mm < fr → nn < fc →
        u.get (I ++ [y * oC + x, k * (fr * fc) + mm * fc + nn])
          = (⟨B ++ [D, R, C], iv⟩ : Tensor S).get (I ++ [k, y * sr + mm, x * sc + nn]) := by
  have hu := unroll_flat B D R C sr sc fr fc iv hposB hD (Nat.le_trans hfr1 hfr) (Nat.le_trans hfc1 hfc) hlen hfr hfc hfr1
    hfc1 hsr hsc
  rw [hoR, hoC] at hu
  refine ⟨_, hu, rfl, ?_, ?_⟩
  · exact ⟨pos_append2 hposB (Nat.mul_pos (hoR ▸ Nat.succ_pos _) (hoC ▸ Nat.succ_pos _)) (Nat.mul_pos hD (Nat.mul_pos hfr1 hfc1)),
      by rw [prod_append, prod2, List.length_map, List.length_range, Nat.mul_assoc (oR * oC)]⟩
  · intro I y x k mm nn hI hy hx hk hmm hnn
    have ht : k * (fr * fc) + mm * fc + nn < D * (fr * fc) := by
      rw [Nat.add_assoc]; exact idx2_lt k D _ (fr * fc) hk (idx2_lt mm fr nn fc hmm hnn)
    refine Tensor.get_gather B [oR * oC, D * (fr * fc)] [D, R, C] I _ _ (oR * oC * D * (fr * fc)) (D * R * C) iv (unrollIdx C R D sr sc fr fc oC) ((prod2 _ _).trans (Nat.mul_assoc _ _ _).symm)
      (prod3 D R C) hI (inRange2 (idx2_lt _ _ _ _ hy hx) ht) ?_
    rw [rowMajor2, unrollIdx_decomp C R D sr sc fr fc oC _ k mm nn hk hmm hnn, (dm y oC x hx).1, (dm y oC x hx).2, window_pos,
      rowMajor_cons, rowMajor2, prod2, Nat.add_comm mm, Nat.mul_comm sr, Nat.add_comm nn, Nat.mul_comm sc, Nat.add_assoc]

/-- `expand_conv` transposes every image `[windows, filters]` of its `n` images to `[filters, windows]`; only the
    constructor can still refuse -/
theorem expandConv_eq (t : Tensor S) (B : List Nat) (n w f r c : Nat) (hd : t.dims = B ++ [w, f])
    (hl : t.vals.length = n * (w * f)) :
    expandConv t r c = Tensor.mk? (B ++ [f, r, c]) ((List.range (n * (w * f))).map fun o =>
      t.vals.getD (o / (w * f) * (w * f) + o % (w * f) / w + f * (o % (w * f) % w)) zero) := by
  unfold expandConv
  rw [hd, dimFromEnd_snoc2_1, dimFromEnd_snoc2_2, take_snoc2, hl]
  simp only [ok_bind]
  rw [tabulateM_ok _ _ _ fun o ho => getR_getD t.vals _ ?_]
  · rfl
  · rw [Nat.add_assoc, Nat.add_comm (_ / w), Nat.mul_comm f, hl]
    exact transposed_lt n w f o ho

theorem expand_flat (B : List Nat) (oR oC K : Nat) (mv : List S)
    (hposB : ∀ d ∈ B, 1 ≤ d) (hoR : 1 ≤ oR) (hoC : 1 ≤ oC) (hK : 1 ≤ K)
    (hlen : mv.length = prod B * (oR * oC * K)) :
    expandConv (⟨B ++ [oR * oC, K], mv⟩ : Tensor S) oR oC
      = .ok ⟨B ++ [K, oR, oC], (List.range (prod B * (oR * oC * K))).map (fun o =>
          mv.getD (o / (oR * oC * K) * (oR * oC * K) + o % (oR * oC * K) / (oR * oC)
            + K * (o % (oR * oC * K) % (oR * oC))) zero)⟩ := by
  rw [expandConv_eq _ B (prod B) (oR * oC) K oR oC rfl hlen]
  refine Tensor.mk?_ok (pos_append3 hposB hK hoR hoC) ?_
  rw [prod_append, prod3, List.length_map, List.length_range, Nat.mul_assoc K, Nat.mul_comm K]

theorem expand_get (B : List Nat) (oR oC K : Nat) (t : Tensor S) (hd : t.dims = B ++ [oR * oC, K]) (hw : t.WF)
    (hoR : 1 ≤ oR) (hoC : 1 ≤ oC) :
    ∃ e : Tensor S, expandConv t oR oC = .ok e ∧ e.dims = B ++ [K, oR, oC] ∧ e.WF ∧
      ∀ I f y x, inRange B I = true → f < K → y < oR → x < oC →
        e.get (I ++ [f, y, x]) = t.get (I ++ [y * oC + x, f]) := by
  obtain ⟨hposB, -, hK⟩ := pos_append2_iff.mp (hd ▸ hw.1)
  have hlen : t.vals.length = prod B * (oR * oC * K) := by rw [← hw.2, hd, prod_append, prod2]
  have he := expand_flat B oR oC K t.vals hposB hoR hoC hK hlen
  simp only [Nat.add_assoc] at he
  rw [tensor_eta t _ hd]
  refine ⟨_, he, rfl, ⟨pos_append3 hposB hK hoR hoC, ?_⟩, ?_⟩
  · rw [prod_append, prod3, List.length_map, List.length_range, Nat.mul_assoc K, Nat.mul_comm K]
  · intro I f y x hI hf hy hx
    have hw : y * oC + x < oR * oC := idx2_lt _ _ _ _ hy hx
    refine Tensor.get_gather B [K, oR, oC] [oR * oC, K] I _ _ (oR * oC * K) (oR * oC * K) t.vals (fun q => q / (oR * oC) + K * (q % (oR * oC)))
      ((prod3 _ _ _).trans ((Nat.mul_assoc _ _ _).trans (Nat.mul_comm _ _))) (prod2 _ _) hI (inRange3 hf hy hx) ?_
    rw [rowMajor_cons, rowMajor2, prod2, rowMajor2, (dm f (oR * oC) _ hw).1, (dm f (oR * oC) _ hw).2, Nat.add_comm, Nat.mul_comm]

theorem filter_get (K D fr fc f k mm nn : Nat) (fv : List S) :
    (⟨[K, fr * fc * D], fv⟩ : Tensor S).get [f, k * (fr * fc) + mm * fc + nn]
      = (⟨[K, D, fr, fc], fv⟩ : Tensor S).get [f, k, mm, nn] := by
  simp only [Tensor.get, rowMajor_cons, rowMajor_nil, prod_cons, prod_nil, Nat.mul_one, Nat.add_zero]
  rw [Nat.mul_comm D, Nat.add_assoc]

theorem convParams_snoc3 (B F : List Nat) (D R C fd fr fc sr sc : Nat) :
    convParams (B ++ [D, R, C]) (F ++ [fd, fr, fc]) sr sc
      = if (R < fr ∨ C < fc) ∨ (sr = 0 ∨ sc = 0) then .error .underflow
        else .ok (D, fr, fc, (R - fr) / sr + 1, (C - fc) / sc + 1) := by
  have hB : (B ++ [D, R, C]).length = B.length + 3 := List.length_append
  have hF : (F ++ [fd, fr, fc]).length = F.length + 3 := List.length_append
  unfold convParams
  simp only [hB, hF, Nat.succ_ne_zero, if_false, ge_iff_le, Nat.le_add_left, decide_true,
    Bool.and_self, Bool.not_true, Bool.false_eq_true, dimFromEnd_snoc3_3, dimFromEnd_snoc3_2,
    dimFromEnd_snoc3_1, ok_bind, Bool.or_eq_true, decide_eq_true_eq]
  by_cases h1 : R < fr ∨ C < fc <;> by_cases h2 : sr = 0 ∨ sc = 0 <;>
    simp only [h1, h2, if_true, if_false, or_true, true_or, or_self] <;> rfl

theorem specConv_snoc3 (img flt : Tensor S) (B : List Nat) (D R C K fd fr fc sr sc : Nat)
    (hdi : img.dims = B ++ [D, R, C]) (hdf : flt.dims = [K, fd, fr, fc]) :
    specConv img flt sr sc
      = Tensor.ofFn (B ++ [K, (R - fr) / sr + 1, (C - fc) / sc + 1]) (fun idx =>
          sumRange D (fun k => sumRange fr (fun mm => sumRange fc (fun nn =>
            img.get (idx.take B.length ++ [k, idx.getD (B.length + 1) 0 * sr + mm, idx.getD (B.length + 2) 0 * sc + nn])
              * flt.get [idx.getD B.length 0, k, mm, nn])))) := by
  have hl : (B ++ [D, R, C]).length = B.length + 3 := List.length_append
  have g : ∀ k, (B ++ [D, R, C]).getD (B.length + k) 0 = [D, R, C].getD k 0 := fun k => getD_append_len B _ _ k rfl
  simp only [specConv, hdi, hdf, hl, Nat.add_sub_cancel, show B.length + 3 - 2 = B.length + 1 from rfl,
    show B.length + 3 - 1 = B.length + 2 from rfl, List.take_left, g, getD_append_len0 B _ _ rfl, List.getD_cons_zero,
    List.getD_cons_succ]

theorem specConv_dims (img flt : Tensor S) (B : List Nat) (D R C K fd fr fc sr sc : Nat)
    (hdi : img.dims = B ++ [D, R, C]) (hdf : flt.dims = [K, fd, fr, fc]) :
    (specConv img flt sr sc).dims = B ++ [K, (R - fr) / sr + 1, (C - fc) / sc + 1] := by
  rw [specConv_snoc3 img flt B D R C K fd fr fc sr sc hdi hdf]
  rfl

theorem specConv_WF (img flt : Tensor S) (B : List Nat) (D R C K fd fr fc sr sc : Nat)
    (hdi : img.dims = B ++ [D, R, C]) (hdf : flt.dims = [K, fd, fr, fc]) (hposB : ∀ d ∈ B, 1 ≤ d) (hK : 1 ≤ K) :
    (specConv img flt sr sc).WF := by
  rw [specConv_snoc3 img flt B D R C K fd fr fc sr sc hdi hdf]
  exact Tensor.ofFn_WF _ _ (pos_append3 hposB hK (Nat.succ_pos _) (Nat.succ_pos _))

variable [AddLaws S]

theorem sumRange_mul (a b : Nat) (g : Nat → S) :
    sumRange (a * b) g = sumRange a (fun i => sumRange b (fun j => g (i * b + j))) :=
  sumRange_nested a b g

theorem sumRange_mul3 (a b c : Nat) (g : Nat → S) :
    sumRange (a * (b * c)) g
      = sumRange a (fun i => sumRange b (fun j => sumRange c (fun l => g (i * (b * c) + j * c + l)))) := by
  rw [sumRange_mul]
  apply sumRange_congr; intro i _
  rw [sumRange_mul]
  apply sumRange_congr; intro j _
  apply sumRange_congr; intro l _
  rw [Nat.add_assoc]

/-- C06.  The scalars' addition is asked to be a commutative monoid because the code's flat dot product over
    `D * (fr * fc)` terms is regrouped into the triple sum of the definition. -/
theorem conv_eq_specConv (img flt : Tensor S) (B : List Nat) (D R C K fr fc sr sc : Nat)
    (hdi : img.dims = B ++ [D, R, C]) (hdf : flt.dims = [K, D, fr, fc]) (hwi : img.WF) (hwf : flt.WF)
    (hfr : fr ≤ R) (hfc : fc ≤ C) (hsr : 1 ≤ sr) (hsc : 1 ≤ sc) :
    conv img flt sr sc = .ok (specConv img flt sr sc) := by
  obtain ⟨_, iv⟩ := img
  obtain ⟨_, fv⟩ := flt
  subst hdi hdf
  obtain ⟨hposB, hD, -, -⟩ := pos_append3_iff.mp hwi.1
  obtain ⟨hK, hf⟩ := List.forall_mem_cons.mp hwf.1
  obtain ⟨-, hfr1, hfc1⟩ := (pos_append2_iff (l := [D])).mp hf
  have hleni : iv.length = prod B * (D * R * C) := by rw [← hwi.2, prod_append, prod3]
  have hlenf : prod [K, fr * fc * D] = fv.length := by
    rw [← hwf.2]; simp only [prod_cons, prod_nil, Nat.mul_one]; rw [Nat.mul_comm D]
  rw [specConv_snoc3 _ _ B D R C K D fr fc sr sc rfl rfl]
  generalize hoR : (R - fr) / sr + 1 = oR
  generalize hoC : (C - fc) / sc + 1 = oC
  -- the unrolled image `u`
  obtain ⟨u, hu, hud, huw, hug⟩ := unroll_get B D R C sr sc fr fc oR oC iv hposB hD hleni
    hfr hfc hfr1 hfc1 hsr hsc hoR hoC
  -- the filters as a `K × (fr·fc·D)` matrix, the right operand (transposed) of the product
  have hwm : (⟨[K, fr * fc * D], fv⟩ : Tensor S).WF :=
    ⟨pos_append2 (l := []) (fun _ h => nomatch h) hK (Nat.mul_pos (Nat.mul_pos hfr1 hfc1) hD), hlenf⟩
  have hfm : reshape (⟨[K, D, fr, fc], fv⟩ : Tensor S)
      (([K, D, fr, fc] : List Nat).take (([K, D, fr, fc] : List Nat).length - 3) ++ [D * (fr * fc) / D * D])
      = .ok ⟨[K, fr * fc * D], fv⟩ := by
    rw [Nat.mul_div_cancel_left _ hD]
    show Tensor.mk? [K, fr * fc * D] fv = _
    exact Tensor.mk?_ok hwm.1 hlenf
  have hmm := matmul_spec_none u ⟨[K, fr * fc * D], fv⟩ false true B [] (oR * oC) (D * (fr * fc)) K (fr * fc * D) hud rfl huw hwm
    (Compat_nil_right B) (Nat.mul_comm _ _)
  -- the product transposed image by image: `e`
  obtain ⟨e, he, hed, hew, heg⟩ := expand_get B oR oC K (specMatmul u false ⟨[K, fr * fc * D], fv⟩ true none)
    (by rw [specMatmul_dims_snoc2 u _ false true none B [] (oR * oC) (D * (fr * fc)) K (fr * fc * D) hud rfl, bdims_nil_right]; rfl)
    (specMatmul_WF u _ false true none B [] (oR * oC) (D * (fr * fc)) K (fr * fc * D) hud rfl huw hwm)
    (by rw [← hoR]; exact Nat.succ_pos _) (by rw [← hoC]; exact Nat.succ_pos _)
  have hprm := convParams_snoc3 B [K] D R C D fr fc sr sc
  rw [if_neg (not_or.mpr ⟨not_or.mpr ⟨Nat.not_lt.mpr hfr, Nat.not_lt.mpr hfc⟩,
    not_or.mpr ⟨Nat.ne_of_gt hsr, Nat.ne_of_gt hsc⟩⟩)] at hprm
  unfold conv
  simp only [List.cons_append, List.nil_append] at hprm
  simp only [hprm, ok_bind, hu, hud, dimFromEnd_snoc2_1, hoR, hoC]
  simp only [hfm, hmm, he, ok_bind]
  -- `e` against the definition at one output index `I ++ [f, y, x]`, through the three stages
  refine congrArg Except.ok (Tensor.ext_get e _ _ hew hed (fun idx hidx => ?_))
  obtain ⟨I, f, y, x, rfl, hI, hf, hy, hx⟩ := inRange_snoc3_inv _ _ _ _ _ hidx
  have hIl := inRange_length hI
  rw [heg I f y x hI hf hy hx, List.take_left' hIl, getD_append_len0 _ _ _ hIl, getD_append_len _ _ _ 1 hIl,
    getD_append_len _ _ _ 2 hIl,
    specMatmul_get u ⟨[K, fr * fc * D], fv⟩ false true none B [] (oR * oC) (D * (fr * fc)) K (fr * fc * D) hud rfl I _ f
      (by rw [bdims_nil_right]; exact hI) (idx2_lt _ _ _ _ hy hx) hf]
  simp only [Bool.false_eq_true, if_false, if_true, cterm, proj_nil, proj_of_inRange hI, AddLaws.zero_add, List.nil_append,
    List.getD_cons_zero, List.getD_cons_succ]
  -- the dot product over the patch, regrouped by depth, row and column
  rw [sumRange_mul3]
  apply sumRange_congr; intro k hk
  apply sumRange_congr; intro mm hmm
  apply sumRange_congr; intro nn hnn
  rw [hug I y x k mm nn hI hy hx hk hmm hnn, filter_get]

theorem conv_spec (B : List Nat) (D R C K fr fc sr sc : Nat) (iv fv : List S)
    (hwi : (⟨B ++ [D, R, C], iv⟩ : Tensor S).WF) (hwf : (⟨[K, D, fr, fc], fv⟩ : Tensor S).WF)
    (hfr : fr ≤ R) (hfc : fc ≤ C) (hsr : 1 ≤ sr) (hsc : 1 ≤ sc) :
    conv (⟨B ++ [D, R, C], iv⟩ : Tensor S) ⟨[K, D, fr, fc], fv⟩ sr sc
      = .ok (specConv (⟨B ++ [D, R, C], iv⟩ : Tensor S) ⟨[K, D, fr, fc], fv⟩ sr sc) :=
  conv_eq_specConv _ _ B D R C K fr fc sr sc rfl rfl hwi hwf hfr hfc hsr hsc

end Corgi
