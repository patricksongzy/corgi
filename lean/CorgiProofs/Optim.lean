/-
  CorgiProofs.Optim — `GradientDescent::update` is one step per parameter (C13).
-/
import CorgiProofs.Frame
import CorgiProofs.Index

set_option linter.unusedSectionVars false

namespace Corgi
variable {S : Type} [Add S] [Mul S] [Neg S] [Sub S] [ScalarOps S] [BEq S]

def gradOf (σ : State S) (p : Handle) : Option (Tensor S) := σ.grad.getD p.node none

theorem gradOf_setGrad_ne (σ : State S) (n : Nat) (g : Option (Tensor S)) (q : Handle) (h : q.node ≠ n) :
    gradOf (σ.setGrad n g) q = gradOf σ q := by
  simp only [gradOf, State.setGrad, Array.getD_eq_getD_getElem?]
  rw [Array.getElem?_setIfInBounds_ne (fun e => h e.symm)]

theorem tensorOf_setGrad (σ : State S) (n : Nat) (g : Option (Tensor S)) (q : Handle) :
    (σ.setGrad n g).tensorOf q = σ.tensorOf q := by rfl

/-- values and gradient values of the parameters that hold a gradient, in order -/
def unfrozenBlocks (σ : State S) : List Handle → List (List S × List S)
  | [] => []
  | p :: ps => match gradOf σ p with
    | none => unfrozenBlocks σ ps
    | some g => ((σ.tensorOf p).vals, g.vals) :: unfrozenBlocks σ ps

/-! `unfrozenBlocks` and `gdGather` on a parameter without and with a gradient (unfolding either by `simp only`
    proves its equation lemmas anew in every theorem that does so) -/

theorem unfrozenBlocks_none {σ : State S} {p : Handle} (h : gradOf σ p = none) (ps : List Handle) :
    unfrozenBlocks σ (p :: ps) = unfrozenBlocks σ ps := by
  show (match gradOf σ p with | none => _ | some g => _) = _
  rw [h]

theorem unfrozenBlocks_some {σ : State S} {p : Handle} {g : Tensor S} (h : gradOf σ p = some g) (ps : List Handle) :
    unfrozenBlocks σ (p :: ps) = ((σ.tensorOf p).vals, g.vals) :: unfrozenBlocks σ ps := by
  show (match gradOf σ p with | none => _ | some g => _) = _
  rw [h]

theorem gdGather_none {σ : State S} {p : Handle} (h : gradOf σ p = none) (ps : List Handle) :
    gdGather σ (p :: ps) = ((gdGather σ ps).1, true :: (gdGather σ ps).2.1, (gdGather σ ps).2.2) := by
  show (match gradOf σ p with | none => _ | some g => _) = _
  rw [h]

theorem gdGather_some {σ : State S} {p : Handle} {g : Tensor S} (h : gradOf σ p = some g) (ps : List Handle) :
    gdGather σ (p :: ps) = ((gdGather (σ.setGrad p.node none) ps).1, false :: (gdGather (σ.setGrad p.node none) ps).2.1,
      (σ.tensorOf p).vals ++ (gdGather (σ.setGrad p.node none) ps).2.2.1,
      g.vals ++ (gdGather (σ.setGrad p.node none) ps).2.2.2) := by
  show (match gradOf σ p with | none => _ | some g => _) = _
  rw [h]

theorem unfrozenBlocks_setGrad (σ : State S) (n : Nat) (ps : List Handle) (h : ∀ q ∈ ps, q.node ≠ n) :
    unfrozenBlocks (σ.setGrad n none) ps = unfrozenBlocks σ ps := by
  induction ps with
  | nil => rfl
  | cons p ps ih =>
    have ih := ih fun q hq => h q (.tail _ hq)
    have e := gradOf_setGrad_ne σ n none p (h p (.head _))
    cases hg : gradOf σ p with
    | none => rw [unfrozenBlocks_none hg, unfrozenBlocks_none (e.trans hg), ih]
    | some g => rw [unfrozenBlocks_some hg, unfrozenBlocks_some (e.trans hg), ih]; rfl

/-- gathering only touches gradient cells, and no size -/
theorem gdGather_eq (ps : List Handle) : ∀ σ : State S,
    (gdGather σ ps).1 = { σ with grad := (gdGather σ ps).1.grad } ∧ (gdGather σ ps).1.grad.size = σ.grad.size := by
  induction ps with
  | nil => exact fun _ => ⟨rfl, rfl⟩
  | cons p ps ih =>
    intro σ
    cases hg : gradOf σ p with
    | none => rw [gdGather_none hg]; exact ih σ
    | some g =>
      rw [gdGather_some hg]
      exact ⟨(ih _).1, (ih _).2.trans Array.size_setIfInBounds⟩

theorem gradOf_setGrad_self (σ : State S) (n : Nat) (q : Handle) (h : q.node = n) : gradOf (σ.setGrad n none) q = none := by
  subst h
  simp only [gradOf, State.setGrad, Array.getD_eq_getD_getElem?, Array.getElem?_setIfInBounds_self]
  split <;> rfl

/-- for any parameter list, repetitions allowed -/
theorem gradOf_gdGather (q : Handle) (ps : List Handle) : ∀ σ : State S,
    gradOf (gdGather σ ps).1 q = if ∃ p ∈ ps, p.node = q.node then none else gradOf σ q := by
  induction ps with
  | nil => exact fun σ => (if_neg fun ⟨_, h, _⟩ => nomatch h).symm
  | cons p ps ih =>
    intro σ
    have ex : (∃ p' ∈ p :: ps, p'.node = q.node) ↔ p.node = q.node ∨ ∃ p' ∈ ps, p'.node = q.node := by
      simp only [List.mem_cons, exists_eq_or_imp]
    simp only [ex]
    by_cases hq : p.node = q.node
    · -- `q`'s cell is `p`'s: empty before, or cleared now, and never written again
      rw [if_pos (.inl hq)]
      cases hg : gradOf σ p with
      | none =>
        rw [gdGather_none hg, ih σ]; split; rfl
        exact (congrArg (σ.grad.getD · none) hq).symm.trans hg
      | some g =>
        rw [gdGather_some hg, ih]; split; rfl
        exact gradOf_setGrad_self σ p.node q hq.symm
    · simp only [hq, false_or]
      cases hg : gradOf σ p with
      | none => rw [gdGather_none hg, ih σ]
      | some g => rw [gdGather_some hg, ih, gradOf_setGrad_ne σ p.node none q (fun e => hq e.symm)]

/-- the mask and the two flat buffers, read off the state before gathering (clearing one parameter's cell
    does not change what the later ones hold, their nodes being distinct) -/
theorem gdGather_flat (ps : List Handle) : ∀ σ : State S, (ps.map (·.node)).Nodup →
    (gdGather σ ps).2.1 = ps.map (fun p => (gradOf σ p).isNone) ∧
    (gdGather σ ps).2.2.1 = (unfrozenBlocks σ ps).flatMap (·.1) ∧
    (gdGather σ ps).2.2.2 = (unfrozenBlocks σ ps).flatMap (·.2) := by
  induction ps with
  | nil => exact fun _ _ => ⟨rfl, rfl, rfl⟩
  | cons p ps ih =>
    intro σ hnd
    obtain ⟨hp, hnd'⟩ := List.nodup_cons.mp hnd
    have hne : ∀ q ∈ ps, q.node ≠ p.node := fun q hq e => hp (List.mem_map.mpr ⟨q, hq, e⟩)
    rw [List.map_cons]
    cases hg : gradOf σ p with
    | none =>
      have ih := ih σ hnd'
      rw [gdGather_none hg, unfrozenBlocks_none hg]
      exact ⟨congrArg _ ih.1, ih.2⟩
    | some g =>
      have ih := ih (σ.setGrad p.node none) hnd'
      rw [unfrozenBlocks_setGrad σ p.node ps hne] at ih
      rw [gdGather_some hg, unfrozenBlocks_some hg]
      refine ⟨congrArg _ (ih.1.trans (List.map_congr_left fun q hq => ?_)), congrArg _ ih.2.1, congrArg _ ih.2.2⟩
      rw [gradOf_setGrad_ne σ p.node none q (hne q hq)]

/-- C13, the gathering half: what `gdGather` returns and leaves behind, for pairwise distinct parameter nodes -/
theorem gdGather_spec : ∀ (ps : List Handle) (σ : State S), (ps.map (·.node)).Nodup →
    (gdGather σ ps).2.1 = ps.map (fun p => (gradOf σ p).isNone) ∧
    (gdGather σ ps).2.2.1 = (unfrozenBlocks σ ps).flatMap (·.1) ∧
    (gdGather σ ps).2.2.2 = (unfrozenBlocks σ ps).flatMap (·.2) ∧
    (gdGather σ ps).1.bufs = σ.bufs ∧
    (∀ q, (∀ p ∈ ps, p.node ≠ q.node) → gradOf (gdGather σ ps).1 q = gradOf σ q) ∧
    (∀ p ∈ ps, gradOf (gdGather σ ps).1 p = none) := fun ps σ hnd =>
  have ⟨h1, h2, h3⟩ := gdGather_flat ps σ hnd
  ⟨h1, h2, h3, (congrArg State.bufs (gdGather_eq ps σ).1 :),
   fun q hq => by rw [gradOf_gdGather, if_neg fun ⟨p, hp, e⟩ => hq p hp e],
   fun p hp => by rw [gradOf_gdGather, if_pos ⟨p, hp, rfl⟩]⟩

/-- what draining is supposed to do: one fresh tracked array per unfrozen parameter, holding its block -/
def drainSpec (σ : State S) : List Handle → List Bool → List (List S) → State S × List Handle
  | p :: ps, true :: fs, blocks =>
    let r := drainSpec σ ps fs blocks
    (r.1, p :: r.2)
  | p :: ps, false :: fs, b :: blocks =>
    let a := σ.alloc ⟨p.dims, b⟩ [] none false
    let r := drainSpec a.1 ps fs blocks
    (r.1, { a.2 with tracked := true, keep := true } :: r.2)
  | _, _, _ => (σ, [])

/-- the blocks line up with the unfrozen parameters, each with its parameter's element count -/
def BlocksFit : List Handle → List Bool → List (List S) → Prop
  | [], [], [] => True
  | _ :: ps, true :: fs, bl => BlocksFit ps fs bl
  | p :: ps, false :: fs, b :: bl => b.length = prod p.dims ∧ BlocksFit ps fs bl
  | _, _, _ => False

theorem BlocksFit.ind {motive : List Handle → List Bool → List (List S) → Prop} (nil : motive [] [] [])
    (frozen : ∀ p ps fs bl, BlocksFit ps fs bl → motive ps fs bl → motive (p :: ps) (true :: fs) bl)
    (unfrozen : ∀ p ps fs b bl, b.length = prod p.dims → BlocksFit ps fs bl → motive ps fs bl →
      motive (p :: ps) (false :: fs) (b :: bl)) :
    ∀ ps fs bl, BlocksFit ps fs bl → motive ps fs bl := by
  intro ps
  induction ps with
  | nil =>
    intro fs bl h
    cases fs with
    | nil => cases bl with
      | nil => exact nil
      | cons _ _ => exact h.elim
    | cons _ _ => exact h.elim
  | cons p ps ih =>
    intro fs bl h
    rcases fs with _ | ⟨_ | _, fs⟩
    · exact h.elim
    · rcases bl with _ | ⟨b, bl⟩
      · exact h.elim
      · exact unfrozen p ps fs b bl h.1 h.2 (ih fs bl h.2)
    · exact frozen p ps fs bl h (ih fs bl h)

/-! `gdDrain` on a frozen and on an unfrozen parameter (`throw` followed by the rest of the block is `throw`) -/

theorem gdDrain_frozen (σ : State S) (p : Handle) (ps : List Handle) (fs : List Bool) (vals : List S) :
    gdDrain σ (p :: ps) (true :: fs) vals = (do let r ← gdDrain σ ps fs vals; pure (r.1, p :: r.2)) := by rfl

theorem gdDrain_unfrozen (σ : State S) (p : Handle) (ps : List Handle) (fs : List Bool) (vals : List S) :
    gdDrain σ (p :: ps) (false :: fs) vals =
      if vals.length < (σ.tensorOf p).vals.length then throw .sliceOOB else (do
        let t ← Tensor.mk? p.dims (vals.take (σ.tensorOf p).vals.length)
        let r ← gdDrain (hLeaf σ t).1 ps fs (vals.drop (σ.tensorOf p).vals.length)
        pure (r.1, { (hLeaf σ t).2 with tracked := true, keep := true } :: r.2)) := by rfl

theorem gdDrain_spec : ∀ (ps : List Handle) (fs : List Bool) (blocks : List (List S)) (σ : State S),
    BlocksFit ps fs blocks → (∀ p ∈ ps, p.buf < σ.bufs.size) →
    (∀ p ∈ ps, (∀ x ∈ p.dims, 1 ≤ x) ∧ prod p.dims = (σ.tensorOf p).vals.length) →
    gdDrain σ ps fs blocks.flatten = .ok (drainSpec σ ps fs blocks) := by
  intro ps fs blocks σ hfit
  refine BlocksFit.ind (motive := fun ps fs blocks => ∀ σ : State S, (∀ p ∈ ps, p.buf < σ.bufs.size) →
    (∀ p ∈ ps, (∀ x ∈ p.dims, 1 ≤ x) ∧ prod p.dims = (σ.tensorOf p).vals.length) →
    gdDrain σ ps fs blocks.flatten = .ok (drainSpec σ ps fs blocks)) (fun _ _ _ => rfl) ?_ ?_ ps fs blocks hfit σ
  · intro p ps fs blocks _ ih σ hbuf hwf
    rw [gdDrain_frozen, ih σ (fun q hq => hbuf q (.tail _ hq)) (fun q hq => hwf q (.tail _ hq))]
    rfl
  · intro p ps fs b blocks hlen _ ih σ hbuf hwf
    have hpw := hwf p (.head _)
    have hb : (σ.tensorOf p).vals.length = b.length := hpw.2.symm.trans hlen.symm
    have ea : BufExt σ (hLeaf σ ⟨p.dims, b⟩).1 := bufExt_alloc σ _ [] none false ""
    rw [gdDrain_unfrozen, hb, List.flatten_cons, if_neg (by rw [List.length_append]; exact Nat.not_lt.mpr (Nat.le_add_right ..)),
      List.take_left' rfl, List.drop_left' rfl, Tensor.mk?_ok hpw.1 hlen.symm, ok_bind,
      ih (hLeaf σ ⟨p.dims, b⟩).1 (fun q hq => Nat.lt_of_lt_of_le (hbuf q (.tail _ hq)) ea.size)
        (fun q hq => (tensorOf_ext ea q (hbuf q (.tail _ hq))).symm ▸ hwf q (.tail _ hq))]
    rfl

theorem step_blocks (f : S → S → S) (blocks : List (List S × List S)) (h : ∀ b ∈ blocks, b.1.length = b.2.length) :
    List.zipWith f (blocks.flatMap (·.1)) (blocks.flatMap (·.2)) = (blocks.map (fun b => List.zipWith f b.1 b.2)).flatten := by
  induction blocks with
  | nil => rfl
  | cons b bs ih =>
    rw [List.flatMap_cons, List.flatMap_cons, List.map_cons, List.flatten_cons, List.zipWith_append (h b (.head _)),
      ih fun x hx => h x (.tail _ hx)]

theorem flatMap_length_eq (blocks : List (List S × List S)) (h : ∀ b ∈ blocks, b.1.length = b.2.length) :
    (blocks.flatMap (·.1)).length = (blocks.flatMap (·.2)).length := by
  induction blocks with
  | nil => rfl
  | cons b bs ih =>
    rw [List.flatMap_cons, List.flatMap_cons, List.length_append, List.length_append, h b (.head _),
      ih fun x hx => h x (.tail _ hx)]

theorem blocksFit_stepped (σ : State S) (f : S → S → S) (ps : List Handle)
    (h : ∀ p ∈ ps, ∀ g, gradOf σ p = some g →
      g.vals.length = (σ.tensorOf p).vals.length ∧ prod p.dims = (σ.tensorOf p).vals.length) :
    BlocksFit ps (ps.map (fun p => (gradOf σ p).isNone))
      ((unfrozenBlocks σ ps).map (fun b => List.zipWith f b.1 b.2)) := by
  induction ps with
  | nil => trivial
  | cons p ps ih =>
    have ih := ih fun q hq => h q (.tail _ hq)
    rw [List.map_cons]
    cases hg : gradOf σ p with
    | none => rw [unfrozenBlocks_none hg]; exact ih
    | some g =>
      have := h p (.head _) g hg
      rw [unfrozenBlocks_some hg]
      exact ⟨by rw [List.length_zipWith, this.1, Nat.min_self, this.2], ih⟩

theorem unfrozenBlocks_aligned (σ : State S) (ps : List Handle)
    (h : ∀ p ∈ ps, ∀ g, gradOf σ p = some g → g.vals.length = (σ.tensorOf p).vals.length) :
    ∀ b ∈ unfrozenBlocks σ ps, b.1.length = b.2.length := by
  induction ps with
  | nil => exact fun _ hb => nomatch hb
  | cons p ps ih =>
    intro b hb
    have ih := ih fun q hq => h q (.tail _ hq)
    cases hg : gradOf σ p with
    | none => rw [unfrozenBlocks_none hg] at hb; exact ih b hb
    | some g =>
      rw [unfrozenBlocks_some hg] at hb
      rcases List.mem_cons.mp hb with rfl | hb
      · exact (h p (.head _) g hg).symm
      · exact ih b hb

/-- **C13.**  For parameters with pairwise distinct nodes, valid handles, and gradients of their own
    length (C03): `update` gathers, steps and drains to exactly `drainSpec` on the blocks
    `old − lr·g` of the parameters that hold a gradient — one fresh tracked array per such parameter,
    every other parameter's handle unchanged, positions never mixed up whatever the number, shapes and
    frozen subset of the parameters. -/
theorem gdUpdate_spec (σ : State S) (lr : S) (ps : List Handle) (hnd : (ps.map (·.node)).Nodup)
    (hbuf : ∀ p ∈ ps, p.buf < σ.bufs.size)
    (hwf : ∀ p ∈ ps, (∀ x ∈ p.dims, 1 ≤ x) ∧ prod p.dims = (σ.tensorOf p).vals.length)
    (halign : ∀ p ∈ ps, ∀ g, gradOf σ p = some g → g.vals.length = (σ.tensorOf p).vals.length) :
    gdUpdate σ lr ps = .ok (drainSpec (gdGather σ ps).1 ps (ps.map (fun p => (gradOf σ p).isNone))
      ((unfrozenBlocks σ ps).map (fun b => List.zipWith (fun x g => x - lr * g) b.1 b.2))) := by
  obtain ⟨hmask, hV, hG, hbufs, _, _⟩ := gdGather_spec ps σ hnd
  have hbl := unfrozenBlocks_aligned σ ps halign
  unfold gdUpdate
  have hlenVG : (gdGather σ ps).2.2.1.length = (gdGather σ ps).2.2.2.length := by
    rw [hV, hG]; exact flatMap_length_eq _ hbl
  have hstep : List.zipWith (fun x g => x - lr * g) (gdGather σ ps).2.2.1 (gdGather σ ps).2.2.2
      ++ (gdGather σ ps).2.2.1.drop (gdGather σ ps).2.2.2.length
      = ((unfrozenBlocks σ ps).map (fun b => List.zipWith (fun x g => x - lr * g) b.1 b.2)).flatten := by
    rw [← hlenVG, List.drop_length, List.append_nil, hV, hG]
    exact step_blocks _ _ hbl
  simp only []
  rw [hstep, hmask]
  apply gdDrain_spec
  · exact blocksFit_stepped σ _ ps (fun p hp g hg => ⟨halign p hp g hg, (hwf p hp).2⟩)
  · intro p hp; rw [hbufs]; exact hbuf p hp
  · intro p hp
    have : (gdGather σ ps).1.tensorOf p = σ.tensorOf p := by rw [State.tensorOf, hbufs]; rfl
    rw [this]; exact hwf p hp

/-- the per-parameter outcome of an update, read in the final state `σ'` -/
def DrainOK (σ' : State S) : List Handle → List Bool → List (List S) → List Handle → Prop
  | [], [], [], [] => True
  | p :: ps, true :: fs, bl, h :: hs => h = p ∧ DrainOK σ' ps fs bl hs
  | p :: ps, false :: fs, b :: bl, h :: hs =>
    (h.dims = p.dims ∧ h.tracked = true ∧ h.keep = true ∧ σ'.tensorOf h = ⟨p.dims, b⟩ ∧
      σ'.grad.getD h.node none = none ∧ (σ'.nodes[h.node]?).map (·.kids) = some []) ∧ DrainOK σ' ps fs bl hs
  | _, _, _, _ => False

/-- later allocations do not disturb what an earlier handle denotes -/
structure Ext (σ σ' : State S) : Prop where
  bufs : Pre σ.bufs σ'.bufs
  grad : Pre σ.grad σ'.grad
  nodes : Pre σ.nodes σ'.nodes
  inv : σ.grad.size = σ.nodes.size → σ'.grad.size = σ'.nodes.size

theorem Ext.refl (σ : State S) : Ext σ σ := ⟨.refl _, .refl _, .refl _, id⟩

theorem Ext.trans {a b c : State S} (h1 : Ext a b) (h2 : Ext b c) : Ext a c :=
  ⟨h1.bufs.trans h2.bufs, h1.grad.trans h2.grad, h1.nodes.trans h2.nodes, fun h => h2.inv (h1.inv h)⟩

theorem Ext.alloc (σ : State S) (t : Tensor S) : Ext σ (σ.alloc t [] none false).1 :=
  ⟨.push _ _, .push _ _, .push _ _, fun h => by simp only [State.alloc, Array.size_push, h]⟩

theorem drainSpec_ext : ∀ (ps : List Handle) (fs : List Bool) (bl : List (List S)), BlocksFit ps fs bl →
    ∀ σ : State S, Ext σ (drainSpec σ ps fs bl).1 :=
  BlocksFit.ind (fun σ => .refl σ) (fun _ _ _ _ _ ih σ => ih σ)
    fun p _ _ b _ _ _ ih σ => (Ext.alloc σ ⟨p.dims, b⟩).trans (ih _)

/-- **Every parameter gets exactly its own step**: frozen parameters keep their handle; each unfrozen
    parameter becomes a fresh leaf (no stored operands, no gradient) with the same dimensions, both
    flags set, holding its own block. -/
theorem drainSpec_ok : ∀ (ps : List Handle) (fs : List Bool) (bl : List (List S)) (σ : State S),
    BlocksFit ps fs bl → σ.grad.size = σ.nodes.size →
    DrainOK (drainSpec σ ps fs bl).1 ps fs bl (drainSpec σ ps fs bl).2 := by
  intro ps fs bl σ hfit
  refine BlocksFit.ind (motive := fun ps fs bl => ∀ σ : State S, σ.grad.size = σ.nodes.size →
    DrainOK (drainSpec σ ps fs bl).1 ps fs bl (drainSpec σ ps fs bl).2) (fun _ _ => trivial)
    (fun p ps fs bl _ ih σ hsz => ⟨rfl, ih σ hsz⟩) ?_ ps fs bl hfit σ
  intro p ps fs b bl _ hfit ih σ hsz
  have ea := Ext.alloc σ (⟨p.dims, b⟩ : Tensor S)
  have hext := drainSpec_ext ps fs bl hfit (σ.alloc (⟨p.dims, b⟩ : Tensor S) [] none false).1
  obtain ⟨c1, c2, c3⟩ := alloc_leaf_cells σ ⟨p.dims, b⟩ hsz
  -- the new cells survive the later allocations
  have lt : ∀ {α} {x : Array α} {d : α}, x.size < (x.push d).size := size_lt_push _ _
  have ed : (drainSpec σ (p :: ps) (false :: fs) (b :: bl)).1
      = (drainSpec (σ.alloc (⟨p.dims, b⟩ : Tensor S) [] none false).1 ps fs bl).1 := by rfl
  refine ⟨⟨rfl, rfl, rfl, ?_, ?_, ?_⟩, ih _ (ea.inv hsz)⟩
  · show Tensor.mk p.dims (Array.getD _ σ.bufs.size []) = _
    rw [ed, Array.getD_eq_getD_getElem?, hext.bufs _ lt, c1]; rfl
  · show Array.getD _ σ.nodes.size none = none
    rw [ed, Array.getD_eq_getD_getElem?, hext.grad _ (hsz ▸ lt), c2]; rfl
  · show Option.map _ (_ : Array (NodeRec S))[σ.nodes.size]? = _
    rw [ed, hext.nodes _ lt]; exact c3

end Corgi
