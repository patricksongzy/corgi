/-
  The scalar laws the value theorems assume, and the algebra of the two sums: the code's `sumList` (a left fold from
  `zero`) and the specification's `sumRange`.
-/
import CorgiSpec.Ops

namespace Corgi

variable {S : Type} [Add S] [ScalarOps S]

/-- the additive-monoid laws the argument needs (hold in every commutative ring; `Rat`, `Int`, `ℝ`) -/
class AddLaws (S : Type) [Add S] [ScalarOps S] : Prop where
  add_comm : ∀ a b : S, a + b = b + a
  add_assoc : ∀ a b c : S, a + b + c = a + (b + c)
  zero_add : ∀ a : S, zero + a = a

/-- the ring laws the closures' additivity needs (hold in `Int`, `Rat`, `ℝ`; not in floats) -/
class MulLaws (S : Type) [Add S] [Mul S] [ScalarOps S] : Prop where
  left_distrib : ∀ a b c : S, a * (b + c) = a * b + a * c
  right_distrib : ∀ a b c : S, (a + b) * c = a * c + b * c
  div_add : ∀ a b c : S, ScalarOps.div (a + b) c = ScalarOps.div a c + ScalarOps.div b c

/-- what homogeneity of the closures needs on top (commutative ring laws) -/
class CommLaws (S : Type) [Add S] [Mul S] [ScalarOps S] : Prop where
  mul_comm : ∀ a b : S, a * b = b * a
  mul_assoc : ∀ a b c : S, a * b * c = a * (b * c)
  mul_zero : ∀ a : S, a * zero = zero
  div_smul : ∀ α a c : S, ScalarOps.div (α * a) c = α * ScalarOps.div a c

theorem sumList_nil : sumList ([] : List S) = zero := rfl

theorem sumRange_zero (f : Nat → S) : sumRange 0 f = zero := rfl

theorem sumRange_congr (n : Nat) {f g : Nat → S} (h : ∀ i, i < n → f i = g i) : sumRange n f = sumRange n g :=
  congrArg sumList (List.map_congr_left fun i hi => h i (List.mem_range.mp hi))

theorem sumRange_ext {n : Nat} {f g : Nat → S} (h : ∀ i, f i = g i) : sumRange n f = sumRange n g :=
  sumRange_congr n fun i _ => h i

section op
variable {op : S → S → S}

omit [ScalarOps S] in
theorem foldl_map_op {ι : Type} (h4 : ∀ a b c d, op (a + b) (c + d) = op a c + op b d) (f g : ι → S) :
    ∀ (l : List ι) (a b : S), (l.map (fun n => op (f n) (g n))).foldl (· + ·) (op a b)
      = op ((l.map f).foldl (· + ·) a) ((l.map g).foldl (· + ·) b)
  | [], _, _ => rfl
  | n :: l, a, b => by
    simp only [List.map_cons, List.foldl_cons]
    rw [← h4]
    exact foldl_map_op h4 f g l _ _

/-- with `op = (· + ·)` this is `Σ (f + g) = Σ f + Σ g`, with `op a _ = α * a` it is `Σ α · f = α · Σ f` -/
theorem sumList_map_op {ι : Type} (h0 : op zero zero = zero) (h4 : ∀ a b c d, op (a + b) (c + d) = op a c + op b d)
    (f g : ι → S) (l : List ι) :
    sumList (l.map (fun n => op (f n) (g n))) = op (sumList (l.map f)) (sumList (l.map g)) := by
  unfold sumList
  have := foldl_map_op h4 f g l zero zero
  rwa [h0] at this

end op

variable [AddLaws S]

theorem add_zero' (a : S) : a + zero = a := by rw [AddLaws.add_comm]; exact AddLaws.zero_add a

theorem add_left_comm' (a b c : S) : a + (b + c) = b + (a + c) := by
  rw [← AddLaws.add_assoc, AddLaws.add_comm a b, AddLaws.add_assoc]

theorem add4 (a b c d : S) : (a + b) + (c + d) = (a + c) + (b + d) := by
  rw [AddLaws.add_assoc, add_left_comm' b, ← AddLaws.add_assoc]

theorem foldl_add_start (l : List S) (x y : S) : l.foldl (· + ·) (x + y) = x + l.foldl (· + ·) y := by
  induction l generalizing y with
  | nil => rfl
  | cons z l ih => rw [List.foldl_cons, List.foldl_cons, AddLaws.add_assoc, ih]

theorem sumList_cons (a : S) (l : List S) : sumList (a :: l) = a + sumList l := by
  rw [sumList, List.foldl_cons, AddLaws.add_comm, foldl_add_start]; rfl

theorem sumList_append (u v : List S) : sumList (u ++ v) = sumList u + sumList v := by
  induction u with
  | nil => exact (AddLaws.zero_add _).symm
  | cons a u ih => rw [List.cons_append, sumList_cons, sumList_cons, ih, AddLaws.add_assoc]

theorem sumList_single (x : S) : sumList [x] = x := by rw [sumList_cons, sumList_nil, add_zero']

theorem sumRange_succ (n : Nat) (f : Nat → S) : sumRange (n + 1) f = sumRange n f + f n := by
  rw [sumRange, List.range_succ, List.map_append, sumList_append, List.map_cons, List.map_nil, sumList_single]; rfl

theorem sumRange_one (f : Nat → S) : sumRange 1 f = f 0 := by rw [sumRange_succ, sumRange_zero, AddLaws.zero_add]

theorem sumRange_add (n : Nat) (f g : Nat → S) : sumRange n (fun t => f t + g t) = sumRange n f + sumRange n g :=
  sumList_map_op (AddLaws.zero_add _) add4 f g (List.range n)

theorem sumRange_smul [Mul S] [MulLaws S] [CommLaws S] (α : S) (k : Nat) (f : Nat → S) :
    sumRange k (fun t => α * f t) = α * sumRange k f :=
  sumList_map_op (op := fun a _ => α * a) (CommLaws.mul_zero α) (fun a b _ _ => MulLaws.left_distrib α a b) f f (List.range k)

theorem sumRange_const_zero (n : Nat) : sumRange n (fun _ => (zero : S)) = zero := by
  induction n with
  | zero => rfl
  | succ n ih => rw [sumRange_succ, ih, AddLaws.zero_add]

theorem sumRange_add_split (a b : Nat) (f : Nat → S) :
    sumRange (a + b) f = sumRange a f + sumRange b (fun j => f (a + j)) := by
  induction b with
  | zero => exact (add_zero' _).symm
  | succ b ih => rw [← Nat.add_assoc, sumRange_succ, sumRange_succ, ih, AddLaws.add_assoc]

theorem sumRange_nested (m n : Nat) (f : Nat → S) :
    sumRange (m * n) f = sumRange m (fun r => sumRange n (fun j => f (r * n + j))) := by
  induction m with
  | zero => rw [Nat.zero_mul]; rfl
  | succ m ih => rw [Nat.succ_mul, sumRange_add_split, sumRange_succ, ih]

theorem sumRange_succ_front (n : Nat) (f : Nat → S) : sumRange (n + 1) f = f 0 + sumRange n (fun i => f (i + 1)) := by
  rw [Nat.add_comm n 1, sumRange_add_split, sumRange_one]
  exact congrArg _ (sumRange_ext fun j => by rw [Nat.add_comm])

end Corgi
