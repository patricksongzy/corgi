/-
  The closures of the two convolution stages are the transposes of the forward maps.  `unroll_blocks` (im2col): the
  forward slice operation is a *gather* (`unrollIdx`), the closure's slice operation `roll_blocks` with accumulation a
  *scatter-add* (`rollIdx`, `rollPure`); the two index computations, written differently in the code, agree for every
  parameter value (`unrollIdx_eq_rollIdx`), and scatter-add over an index map is the transpose of the gather over the
  same map (`rollPure_adjoint`), overlapping windows included.  `expand_conv`: a per-image matrix transposition, its
  closure the inverse one.
-/
import CorgiProofs.AdjointMatmul
import CorgiProofs.ConvBack

set_option linter.unusedSectionVars false
set_option linter.unusedVariables false

namespace Corgi
variable {S : Type} [Add S] [Mul S] [Neg S] [Sub S] [ScalarOps S] [BEq S]
variable [AddLaws S] [MulLaws S] [CommLaws S]

/-- adding `x` at position `p` of the second argument adds `u[p]·x` to the inner product -/
theorem dot_set_add (u o : List S) (p : Nat) (x : S) (h : u.length = o.length) (hp : p < o.length) :
    dot u (o.set p (o.getD p zero + x)) = dot u o + u.getD p zero * x := by
  induction u generalizing o p with
  | nil =>
    cases o with
    | nil => exact absurd hp (Nat.not_lt_zero _)
    | cons => cases h
  | cons a u ih =>
    cases o with
    | nil => cases h
    | cons b o =>
      cases p with
      | zero =>
        rw [List.set_cons_zero, List.getD_cons_zero, List.getD_cons_zero, dot_cons, dot_cons, MulLaws.left_distrib,
          AddLaws.add_assoc, AddLaws.add_assoc, AddLaws.add_comm (a * x)]
      | succ p =>
        rw [List.set_cons_succ, List.getD_cons_succ, List.getD_cons_succ, dot_cons, dot_cons,
          ih o p (Nat.succ.inj h) (Nat.lt_of_succ_lt_succ hp), AddLaws.add_assoc]

/-- the gather that `rollPure`'s scatter transposes: element `i` reads position `idx (q + i)` -/
def gatherL (idx : Nat → Nat) (u : List S) : Nat → Nat → List S
  | _, 0 => []
  | q, n + 1 => u.getD (idx q) zero :: gatherL idx u (q + 1) n

theorem gatherL_succ (idx : Nat → Nat) (u : List S) (q n : Nat) :
    gatherL idx u q (n + 1) = u.getD (idx q) zero :: gatherL idx u (q + 1) n := by rfl

theorem gatherL_eq (idx : Nat → Nat) (u : List S) : ∀ (n q : Nat),
    gatherL idx u q n = (List.range n).map (fun i => u.getD (idx (q + i)) zero) := by
  intro n
  induction n with
  | zero => exact fun _ => rfl
  | succ n ih =>
    intro q
    rw [gatherL_succ, ih (q + 1), List.range_succ_eq_map, List.map_cons, List.map_map]
    exact congrArg _ (List.map_congr_left fun i _ => by
      show u.getD (idx (q + 1 + i)) zero = u.getD (idx (q + (i + 1))) zero
      rw [Nat.add_assoc, Nat.add_comm 1 i])

/-- **scatter-add is the transpose of gather**: for every index map into the buffer,
    `⟨u, scatter(xs) onto out⟩ = ⟨u, out⟩ + ⟨gather(u), xs⟩` -/
theorem rollPure_adjoint (idx : Nat → Nat) (u : List S) : ∀ (xs : List S) (q : Nat) (out : List S),
    u.length = out.length → (∀ i, i < xs.length → idx (q + i) < out.length) →
    dot u (rollPure idx xs q out) = dot u out + dot (gatherL idx u q xs.length) xs := by
  intro xs
  induction xs with
  | nil => exact fun _ _ _ _ => (add_zero' _).symm
  | cons x xs ih =>
    intro q out hu h
    have h0 : idx q < out.length := h 0 (Nat.succ_pos _)
    rw [rollPure_cons, List.length_cons, gatherL_succ, dot_cons, ih (q + 1) _ (by rw [List.length_set]; exact hu)
        (fun i hi => by rw [List.length_set, Nat.add_right_comm]; exact h (i + 1) (Nat.succ_lt_succ hi)),
      dot_set_add u out (idx q) x hu h0, AddLaws.add_assoc]

theorem dot_replicate_zero (u : List S) (n : Nat) : dot u (List.replicate n zero) = zero := by
  induction u generalizing n with
  | nil => rfl
  | cons a u ih =>
    cases n with
    | zero => rfl
    | succ n => rw [List.replicate_succ, dot_cons, ih n, CommLaws.mul_zero, AddLaws.zero_add]

theorem unrollOp_ok (cols rows depth sr sc fr fc cCount total : Nat) (img : List S)
    (hin : ∀ o, o < total → unrollIdx cols rows depth sr sc fr fc cCount o < img.length) :
    unrollOp cols rows depth sr sc fr fc cCount total [img]
      = .ok ((List.range total).map (fun o => img.getD (unrollIdx cols rows depth sr sc fr fc cCount o) zero)) :=
  tabulateM_ok _ _ _ (fun o ho => getR_getD img _ (hin o ho))

/-- one image: whenever both slice operations return, `roll_blocks` (accumulating) answers the transpose of
    `unroll_blocks`, overlapping windows included -/
theorem unroll_roll_slice_adjoint (depth rows cols sr sc fr fc count cCount : Nat) (img xs U B : List S)
    (himg : img.length = depth * rows * cols) (hxs : xs.length = count * (fr * fc) * depth)
    (hin : ∀ o, o < count * (fr * fc) * depth → unrollIdx cols rows depth sr sc fr fc cCount o < depth * rows * cols)
    (hU : unrollOp cols rows depth sr sc fr fc cCount (count * (fr * fc) * depth) [img] = .ok U)
    (hB : rollOp true depth rows cols sr sc fr fc count cCount [xs] = .ok B) :
    dot U xs = dot img B := by
  have hin' : ∀ i, i < xs.length → rollIdx depth rows cols sr sc fr fc cCount i < depth * rows * cols :=
    fun i hi => by rw [← unrollIdx_eq_rollIdx]; exact hin i (hxs ▸ hi)
  rw [unrollOp_ok _ _ _ _ _ _ _ _ _ img (fun o ho => himg ▸ hin o ho)] at hU
  rw [rollOp_ok _ _ _ _ _ _ _ _ _ xs hxs hin'] at hB
  rw [← Except.ok.inj hU, ← Except.ok.inj hB,
    rollPure_adjoint _ img xs 0 _ (himg.trans List.length_replicate.symm)
      (fun i hi => by rw [List.length_replicate, Nat.zero_add]; exact hin' i hi),
    dot_replicate_zero, AddLaws.zero_add, gatherL_eq, hxs]
  simp only [Nat.zero_add, unrollIdx_eq_rollIdx]

/-- the same with nothing assumed about success: for every window that fits, both slice operations return -/
theorem unroll_roll_slice_adjoint_total (D R C sr sc fr fc : Nat) (img xs : List S)
    (hfr : fr ≤ R) (hfc : fc ≤ C) (hfr1 : 1 ≤ fr) (hfc1 : 1 ≤ fc) (hD : 1 ≤ D)
    (himg : img.length = D * R * C)
    (hxs : xs.length = (((R - fr) / sr + 1) * ((C - fc) / sc + 1)) * (fr * fc) * D) :
    ∃ U B : List S,
      unrollOp C R D sr sc fr fc ((C - fc) / sc + 1) ((((R - fr) / sr + 1) * ((C - fc) / sc + 1)) * (fr * fc) * D) [img] = .ok U ∧
      rollOp true D R C sr sc fr fc (((R - fr) / sr + 1) * ((C - fc) / sc + 1)) ((C - fc) / sc + 1) [xs] = .ok B ∧
      dot U xs = dot img B := by
  have hin : ∀ o, o < (((R - fr) / sr + 1) * ((C - fc) / sc + 1)) * (fr * fc) * D →
      unrollIdx C R D sr sc fr fc ((C - fc) / sc + 1) o < D * R * C :=
    fun o ho => unrollIdx_lt C R D sr sc fr fc o hfr hfc hfr1 hfc1 hD (by rw [Nat.mul_right_comm]; exact ho)
  have hU := unrollOp_ok C R D sr sc fr fc ((C - fc) / sc + 1) _ img (fun o ho => himg ▸ hin o ho)
  have hB := rollOp_ok D R C sr sc fr fc _ ((C - fc) / sc + 1) xs hxs
    (fun i hi => by rw [← unrollIdx_eq_rollIdx]; exact hin i (hxs ▸ hi))
  exact ⟨_, _, hU, hB, unroll_roll_slice_adjoint D R C sr sc fr fc _ _ img xs _ _ himg hxs hin hU hB⟩

/-- the batched gather: image `p / N` of the batch, position `idx (p % N)` inside it -/
def gatherB (idx : Nat → Nat) (G N nB : Nat) (iv : List S) : List S :=
  (List.range (nB * N)).map (fun p => iv.getD (p / N * G + idx (p % N)) zero)

/-- the batched scatter-add: one `rollPure` per block of the delta, results concatenated -/
def scatterB (idx : Nat → Nat) (G N nB : Nat) (xv : List S) : List S :=
  ((List.range nB).map (fun n => rollPure idx ((xv.drop (n * N)).take N) 0 (List.replicate G zero))).flatten

theorem dot_blocks (G : Nat) (Fb : Nat → List S) (hF : ∀ n, (Fb n).length = G) (nB : Nat) (v : List S)
    (hv : v.length = nB * G) :
    dot v ((List.range nB).map Fb).flatten = sumRange nB (fun n => dot ((v.drop (n * G)).take G) (Fb n)) := by
  induction nB generalizing v Fb with
  | zero => cases List.length_eq_zero_iff.mp (hv.trans (Nat.zero_mul G)); rfl
  | succ nB ih =>
    rw [Nat.succ_mul] at hv
    have hG : (v.take G).length = G := List.length_take_of_le (hv ▸ Nat.le_add_left _ _)
    rw [List.range_succ_eq_map, List.map_cons, List.flatten_cons, List.map_map, sumRange_succ_front]
    conv => lhs; rw [← List.take_append_drop G v]
    rw [dot_append _ _ _ _ (hG.trans (hF 0).symm),
      ih (Fb ∘ Nat.succ) (fun n => hF _) (v.drop G) (by rw [List.length_drop, hv, Nat.add_sub_cancel]),
      Nat.zero_mul, List.drop_zero]
    exact congrArg _ (sumRange_ext fun n => by rw [List.drop_drop, Nat.succ_mul, Nat.add_comm G]; rfl)

/-- the batch loop: block-wise scatter-add is the transpose of the block-wise gather -/
theorem batch_gather_scatter_adjoint (idx : Nat → Nat) (G N : Nat) (hN : 0 < N) (hin : ∀ q, q < N → idx q < G) :
    ∀ (nB : Nat) (iv xv : List S), iv.length = nB * G → xv.length = nB * N →
      dot (gatherB idx G N nB iv) xv = dot iv (scatterB idx G N nB xv) := by
  intro nB iv xv hi hx
  rw [scatterB, dot_blocks G _ (fun n => by rw [rollPure_length, List.length_replicate]) nB iv hi,
    show gatherB idx G N nB iv = tab nB N (fun n q => iv.getD (n * G + idx q) zero) from rfl, tab_dot _ _ _ xv hx]
  refine sumRange_congr nB (fun n hn => ?_)
  have hG := length_block iv hi hn
  have hNl := length_block xv hx hn
  rw [rollPure_adjoint idx _ _ 0 _ (by rw [hG, List.length_replicate])
      (fun q hq => by rw [List.length_replicate, Nat.zero_add]; exact hin q (hNl ▸ hq)),
    dot_replicate_zero, AddLaws.zero_add, hNl, gatherL_eq,
    dot_eq_sumRange _ _ (by rw [List.length_map, List.length_range, hNl]), List.length_map, List.length_range]
  refine sumRange_congr N (fun q hq => ?_)
  rw [getD_map_range _ _ _ hq, Nat.zero_add, getD_block _ _ _ _ (hin q hq), getD_block _ _ _ _ hq]

theorem rollBlocks_closed (x : Tensor S) (B : List Nat) (D R C sr sc fr fc : Nat)
    (hposB : ∀ d ∈ B, 1 ≤ d) (hD : 1 ≤ D) (hR : 1 ≤ R) (hC : 1 ≤ C)
    (hfr : fr ≤ R) (hfc : fc ≤ C) (hfr1 : 1 ≤ fr) (hfc1 : 1 ≤ fc) (hsr : 1 ≤ sr) (hsc : 1 ≤ sc)
    (hx : Shaped (B ++ [((R - fr) / sr + 1) * ((C - fc) / sc + 1), D * (fr * fc)]) x) :
    rollBlocks x D R C sr sc fr fc true = .ok ⟨B ++ [D, R, C],
      scatterB (rollIdx D R C sr sc fr fc ((C - fc) / sc + 1)) (D * R * C)
        (((R - fr) / sr + 1) * ((C - fc) / sc + 1) * (fr * fc) * D) (prod B) x.vals⟩ :=
  rollBlocks_eq x B D R C sr sc fr fc hposB hD hR hC hfr hfc hfr1 hfc1 hsc hx

/-- whole batches (C02_unroll_blocks_closure_is_transpose) -/
theorem unrollBlocks_closure_adjoint (a x : Tensor S) (B : List Nat) (D R C sr sc fr fc : Nat)
    (hda : a.dims = B ++ [D, R, C]) (hwa : a.WF)
    (hfr : fr ≤ R) (hfc : fc ≤ C) (hfr1 : 1 ≤ fr) (hfc1 : 1 ≤ fc) (hsr : 1 ≤ sr) (hsc : 1 ≤ sc)
    (hx : Shaped (B ++ [((R - fr) / sr + 1) * ((C - fc) / sc + 1), D * (fr * fc)]) x) :
    ∃ U back : Tensor S, unrollBlocks a sr sc fr fc = .ok U ∧ rollBlocks x D R C sr sc fr fc true = .ok back ∧
      back.dims = a.dims ∧ dot U.vals x.vals = dot a.vals back.vals := by
  obtain ⟨ad, av⟩ := a
  subst hda
  obtain ⟨hposB, hD, hR, hC⟩ := pos_append3_iff.mp hwa.1
  have hlen : av.length = prod B * (D * R * C) := by rw [← hwa.2, prod_append, prod3]
  refine ⟨_, _, unroll_flat B D R C sr sc fr fc av hposB hD hR hC hlen hfr hfc hfr1 hfc1 hsr hsc,
    rollBlocks_closed x B D R C sr sc fr fc hposB hD hR hC hfr hfc hfr1 hfc1 hsr hsc hx, rfl, ?_⟩
  -- the forward buffer is the batched gather through `unrollIdx` = `rollIdx`, over blocks of `count · D · (fr · fc)`
  rw [Nat.mul_right_comm _ D]
  simp only [unrollIdx_eq_rollIdx]
  exact batch_gather_scatter_adjoint (rollIdx D R C sr sc fr fc ((C - fc) / sc + 1)) (D * R * C) _
    (Nat.mul_pos (Nat.mul_pos (Nat.mul_pos (Nat.succ_pos _) (Nat.succ_pos _)) (Nat.mul_pos hfr1 hfc1)) hD)
    (fun q hq => rollIdx_lt D R C sr sc fr fc q hfr hfc hfr1 hfc1 hD hq) (prod B) av x.vals hlen
    (by rw [hx.2, prod_append, prod_unrolled])

/-- the buffer `expand_conv` produces: per image, `[windows, filters]` transposed to `[filters, windows]` -/
def expandBuf (nImg stride filters : Nat) (tv : List S) : List S :=
  (List.range (nImg * (stride * filters))).map (fun o =>
    tv.getD (o / (stride * filters) * (stride * filters) + (o % (stride * filters)) / stride
      + filters * ((o % (stride * filters)) % stride)) zero)

/-- a sum over the positions of a `p×q` grid whose summand also reads the row and the column of the position -/
theorem sumRange_grid (n p q : Nat) (hn : n = p * q) (h : Nat → Nat → Nat → S) :
    sumRange n (fun w => h w (w / q) (w % q)) = sumRange p (fun r => sumRange q (fun c => h (r * q + c) r c)) := by
  subst hn
  rw [sumRange_mul_split]
  exact sumRange_congr p (fun r _ => sumRange_congr q (fun c hc => by rw [(dm r q c hc).1, (dm r q c hc).2]))

theorem expandBuf_adjoint (nImg stride filters : Nat) (tv xv : List S)
    (ht : tv.length = nImg * (stride * filters)) (hx : xv.length = nImg * (stride * filters)) :
    dot (expandBuf nImg stride filters tv) xv = dot tv (expandBackBuf nImg stride filters xv) := by
  rw [show expandBuf nImg stride filters tv = tab nImg (stride * filters) (fun g w =>
        tv.getD (g * (stride * filters) + w / stride + filters * (w % stride)) zero) from rfl,
    show expandBackBuf nImg stride filters xv = tab nImg (stride * filters) (fun g w =>
        xv.getD (g * (stride * filters) + w % filters * stride + w / filters) zero) from rfl,
    tab_dot _ _ _ xv hx, dot_tab _ _ _ tv ht]
  refine sumRange_congr nImg (fun g _ => ?_)
  -- inside image `g`: the left sum read at `w = k * stride + i`, the right one at `w = i * filters + k`
  rw [sumRange_grid (stride * filters) filters stride (Nat.mul_comm _ _) (fun w k i =>
        tv.getD (g * (stride * filters) + k + filters * i) zero * xv.getD (g * (stride * filters) + w) zero),
    sumRange_grid (stride * filters) stride filters rfl (fun w i k =>
        tv.getD (g * (stride * filters) + w) zero * xv.getD (g * (stride * filters) + k * stride + i) zero),
    sumRange_comm]
  refine sumRange_ext (fun i => sumRange_ext (fun k => ?_))
  rw [Nat.mul_comm filters i, Nat.add_assoc _ k, Nat.add_comm k, Nat.add_assoc _ (k * stride)]

theorem expandConv_vals (t out : Tensor S) (lead : List Nat) (nImg stride filters r c : Nat)
    (hd : t.dims = lead ++ [stride, filters]) (hl : t.vals.length = nImg * (stride * filters))
    (h : expandConv t r c = .ok out) : out.vals = expandBuf nImg stride filters t.vals :=
  mk?_vals_of_ok _ _ _ (expandConv_eq t lead nImg stride filters r c hd hl ▸ h)

/-- every batch size, whenever both operations return (C02_expand_closure_is_transpose) -/
theorem expandConv_closure_adjoint (t x out back : Tensor S) (lead : List Nat) (nImg stride filters r c : Nat)
    (hd : t.dims = lead ++ [stride, filters]) (hp : prod t.dims = nImg * (stride * filters)) (hwf : prod t.dims = t.vals.length)
    (hx : x.vals.length = nImg * (stride * filters))
    (hf : expandConv t r c = .ok out) (hb : expandConvBack x t.dims = .ok back) :
    dot out.vals x.vals = dot t.vals back.vals := by
  have hl : t.vals.length = nImg * (stride * filters) := by rw [← hwf, hp]
  rw [hd, prod_append, prod2] at hp
  rw [hd, expandConvBack_eq x lead stride filters (hx.trans hp.symm)] at hb
  rw [expandConv_vals t out lead nImg stride filters r c hd hl hf, mk?_vals_of_ok _ _ _ hb, expandBackBuf, hp]
  exact expandBuf_adjoint nImg stride filters t.vals x.vals hl hx

end Corgi
