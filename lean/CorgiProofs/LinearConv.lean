/-
  The closures of the two convolution stages.  `expand_conv`'s closure permutes the delta back (the inverse
  transposition); `unroll_blocks`' closure (`roll_blocks`, accumulating) adds every element of the unrolled delta onto
  the image position it was copied from, so that overlapping windows accumulate.
-/
import CorgiProofs.LinearSum
import CorgiProofs.ConvBack

set_option linter.unusedSectionVars false
set_option linter.unusedVariables false

namespace Corgi
variable {S : Type} [Add S] [Mul S] [Neg S] [Sub S] [ScalarOps S] [BEq S]

theorem vjp_lin_expand [AddLaws S] [MulLaws S] [CommLaws S] (a self : Tensor S) (f0 : Bool) (B : List Nat) (w f rC cC : Nat)
    (hda : a.dims = B ++ [w, f]) (hwa : a.WF) (hrc : rC * cC = w) :
    VjpLinear (vjp .expand [a] self) [f0] (B ++ [f, rC, cC]) [a.dims] := by
  have hposA : ∀ d ∈ B ++ [w, f], 1 ≤ d := by rw [← hda]; exact hwa.1
  have hpn : prod (B ++ [f, rC, cC]) = prod B * (w * f) := by
    rw [prod_append, prod3, ← hrc]; congr 1
    simp only [Nat.mul_comm, Nat.mul_left_comm]
  have hlen : ∀ v : List S, prod (B ++ [w, f]) = (expandBackBuf (prod B) w f v).length := fun v => by
    rw [expandBackBuf, List.length_map, List.length_range, prod_append, prod2]
  refine vjpLin_unary (fun x => expandConvBack x a.dims) (vjp_expand a [] self [f0]) ?_
  rw [hda]
  refine .of_op _ (fun x => ⟨B ++ [w, f], expandBackBuf (prod B) w f x.vals⟩) hposA hposA (Fits_refl _)
    (fun x hx => ⟨?_, rfl, (hlen _).symm⟩) fun op hop x y hx hy => ?_
  · rw [expandConvBack_eq x B w f (by rw [hx.2, hpn])]
    exact Tensor.mk?_ok hposA (hlen _)
  · simp only [tzip, expandBackBuf]
    rw [zipWith_map_range]
    exact congrArg _ (List.map_congr_left fun o _ => getD_zipWith hop.zero _ x.vals y.vals (by rw [hx.2, hy.2]))

theorem zipWith_set (op : S → S → S) (o1 o2 : List S) (i : Nat) (a b : S) :
    List.zipWith op (o1.set i a) (o2.set i b) = (List.zipWith op o1 o2).set i (op a b) := by
  induction o1 generalizing o2 i with
  | nil => rfl
  | cons x o1 ih =>
    cases o2 with
    | nil => cases i <;> rfl
    | cons y o2 =>
      cases i with
      | zero => rfl
      | succ i => exact congrArg (op x y :: ·) (ih o2 i)

theorem rollPure_op {op : S → S → S} (h0 : op zero zero = zero) (h4 : ∀ a b c d, op (a + b) (c + d) = op a c + op b d)
    (idx : Nat → Nat) (u v : List S) (q : Nat) (o1 o2 : List S) (h : u.length = v.length) (ho : o1.length = o2.length) :
    rollPure idx (List.zipWith op u v) q (List.zipWith op o1 o2)
      = List.zipWith op (rollPure idx u q o1) (rollPure idx v q o2) := by
  induction u generalizing v q o1 o2 with
  | nil =>
    cases v with
    | nil => rfl
    | cons => cases h
  | cons a u ih =>
    cases v with
    | nil => cases h
    | cons b v =>
      rw [List.zipWith_cons_cons, rollPure_cons, rollPure_cons, rollPure_cons]
      rw [getD_zipWith h0 (idx q) o1 o2 ho, ← h4, ← zipWith_set]
      exact ih v (q + 1) _ _ (Nat.succ.inj h) (by rw [List.length_set, List.length_set, ho])

theorem vjp_lin_unroll [AddLaws S] [MulLaws S] [CommLaws S] (a self : Tensor S) (f0 : Bool) (B : List Nat)
    (D R C sr sc fr fc : Nat) (hda : a.dims = B ++ [D, R, C]) (hwa : a.WF)
    (hfr : fr ≤ R) (hfc : fc ≤ C) (hfr1 : 1 ≤ fr) (hfc1 : 1 ≤ fc) (hsr : 1 ≤ sr) (hsc : 1 ≤ sc) :
    VjpLinear (vjp (.unroll D R C sr sc fr fc) [a] self) [f0]
      (B ++ [((R - fr) / sr + 1) * ((C - fc) / sc + 1), D * (fr * fc)]) [a.dims] := by
  have hposA : ∀ d ∈ B ++ [D, R, C], 1 ≤ d := by rw [← hda]; exact hwa.1
  have hG := prod_unrolled (((R - fr) / sr + 1) * ((C - fc) / sc + 1)) D (fr * fc)
  refine vjpLin_slots1 (E0 := fun x => whenT f0 (rollBlocks x D R C sr sc fr fc true)) (fun x => rfl) (.whenT fun _ => ?_)
  rw [hda]
  refine linEntry_blocks B _ [D, R, C]
    (fun blk => rollPure (rollIdx D R C sr sc fr fc ((C - fc) / sc + 1)) blk 0 (List.replicate (D * R * C) zero)) hposA
    (fun x hx => ?_) (fun _ => by rw [rollPure_length, List.length_replicate, prod3]) fun op hop u v hu hv => ?_
  · obtain ⟨hB, hD, hR, hC⟩ := pos_append3_iff.mp hposA
    rw [hG]
    exact rollBlocks_eq x B D R C sr sc fr fc hB hD hR hC hfr hfc hfr1 hfc1 hsc hx
  · -- the image of zeros is `op` of two images of zeros
    have hz : (List.replicate (D * R * C) zero : List S)
        = List.zipWith op (List.replicate (D * R * C) zero) (List.replicate (D * R * C) zero) := by
      rw [List.zipWith_replicate, Nat.min_self, hop.zero]
    conv => lhs; rw [hz]
    exact rollPure_op hop.zero hop.medial _ _ _ 0 _ _ (hu.trans hv.symm) rfl

end Corgi
