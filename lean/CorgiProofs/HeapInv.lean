/-
  CorgiProofs.HeapInv — the invariant of reachable heaps: stored operands are older than their
  consumer (so the recorded graph is well-founded), every recorded closure is lawful for its stored
  operands, and between commands every counter is zero and no delta is pending.  It is preserved by
  every command, so the engine theorems (C01, C09, C10, C11) apply in every reachable state.
-/
import CorgiProofs.Frame
import CorgiProofs.Lists
import CorgiProofs.EngineTop

set_option linter.unusedSectionVars false

namespace Corgi
variable {S : Type} [Add S] [Mul S] [Neg S] [Sub S] [ScalarOps S] [BEq S]

def Handle.Valid (σ : State S) (h : Handle) : Prop := h.node < σ.nodes.size ∧ h.buf < σ.bufs.size

/-- the stored operands fit the closure: arity, and — for the closures that answer `Some`
    unconditionally — all operands tracked (such a node only exists if its operand was tracked) -/
def tagOK : OpTag S → List Handle → Prop
  | .add, k | .mul, k | .div, k | .custom 1, k => k.length = 2
  | .neg, k | .scale _, k | .powf _, k | .ln, k | .exp, k | .recip, k | .sum _, k | .relu, k | .sigmoid, k | .expand, k =>
    k.length = 1 ∧ ∀ h ∈ k, h.tracked = true
  | .reshape, k | .unroll _ _ _ _ _ _ _, k | .custom 2, k => k.length = 1
  | .matmul _ _, k | .custom 3, k => k.length = 3
  | .custom 0, _ => True
  | .custom _, _ => False

structure HeapInv (σ : State S) : Prop where
  sizes : σ.cnt.size = σ.nodes.size ∧ σ.delta.size = σ.nodes.size ∧ σ.grad.size = σ.nodes.size
  older : ∀ (n : Nat) (r : NodeRec S), σ.nodes[n]? = some r → ∀ k ∈ r.kids, k.node < n ∧ k.buf < σ.bufs.size
  tags : ∀ (n : Nat) (r : NodeRec S) (tag : OpTag S), σ.nodes[n]? = some r → r.op = some tag → tagOK tag r.kids
  noop : ∀ (n : Nat) (r : NodeRec S), σ.nodes[n]? = some r → r.op = none → r.kids = []
  clean : (∀ i, σ.cnt.getD i 0 = 0) ∧ (∀ i, σ.delta.getD i none = none)

/-- later states only grow: valid handles stay valid -/
structure Mono (σ σ' : State S) : Prop where
  nodes : σ.nodes.size ≤ σ'.nodes.size
  bufs : σ.bufs.size ≤ σ'.bufs.size
  env : σ'.env = σ.env
  layers : σ'.layers = σ.layers
  models : σ'.models = σ.models

theorem Mono.refl (σ : State S) : Mono σ σ := ⟨Nat.le_refl _, Nat.le_refl _, rfl, rfl, rfl⟩
theorem Mono.trans {a b c : State S} (h1 : Mono a b) (h2 : Mono b c) : Mono a c :=
  ⟨Nat.le_trans h1.1 h2.1, Nat.le_trans h1.2 h2.2, h2.env.trans h1.env, h2.layers.trans h1.layers,
   h2.models.trans h1.models⟩
theorem Mono.valid {σ σ' : State S} (m : Mono σ σ') {h : Handle} (hv : h.Valid σ) : h.Valid σ' :=
  ⟨Nat.lt_of_lt_of_le hv.1 m.1, Nat.lt_of_lt_of_le hv.2 m.2⟩

theorem getD_push {α} (a : Array α) (d : α) (i : Nat) : (a.push d).getD i d = a.getD i d := by
  simp only [Array.getD_eq_getD_getElem?, Array.getElem?_push]
  split
  · next h => rw [h, Array.getElem?_eq_none (Nat.le_refl _)]; rfl
  · rfl

/-- Pushing a node whose stored operands are older nodes with existing buffers that fit its tag; both
    allocators are instances. -/
theorem heapInv_push {σ σ' : State S} (hi : HeapInv σ) {rec : NodeRec S}
    (hn : σ'.nodes = σ.nodes.push rec) (hc : σ'.cnt = σ.cnt.push 0) (hd : σ'.delta = σ.delta.push none)
    (hg : σ'.grad.size = σ.grad.size + 1) (hb : σ.bufs.size ≤ σ'.bufs.size)
    (hk : ∀ k ∈ rec.kids, k.node < σ.nodes.size ∧ k.buf < σ'.bufs.size)
    (ht : ∀ tg, rec.op = some tg → tagOK tg rec.kids) (h0 : rec.op = none → rec.kids = []) : HeapInv σ' := by
  -- a node of `σ'` is a node of `σ` or the new one
  have old : ∀ {n r}, σ'.nodes[n]? = some r → σ.nodes[n]? = some r ∨ (n = σ.nodes.size ∧ r = rec) := by
    intro n r h
    rw [hn, Array.getElem?_push] at h
    split at h
    · next e => exact .inr ⟨e, (Option.some.inj h).symm⟩
    · exact .inl h
  refine ⟨?_, ?_, ?_, ?_, ?_⟩
  · rw [hn, hc, hd, hg, Array.size_push, Array.size_push, Array.size_push, hi.sizes.1, hi.sizes.2.1, hi.sizes.2.2]
    exact ⟨rfl, rfl, rfl⟩
  · intro n r h k hkm
    rcases old h with h | ⟨rfl, rfl⟩
    · exact ⟨(hi.older n r h k hkm).1, Nat.lt_of_lt_of_le (hi.older n r h k hkm).2 hb⟩
    · exact hk k hkm
  · intro n r tg h hop
    rcases old h with h | ⟨rfl, rfl⟩
    · exact hi.tags n r tg h hop
    · exact ht tg hop
  · intro n r h hop
    rcases old h with h | ⟨rfl, rfl⟩
    · exact hi.noop n r h hop
    · exact h0 hop
  · rw [hc, hd]
    exact ⟨fun i => (getD_push _ _ i).trans (hi.clean.1 i), fun i => (getD_push _ _ i).trans (hi.clean.2 i)⟩

/-- the node record both allocators push: the graph is kept iff `attach` -/
theorem attachRec_ok {kids : List Handle} {tag : Option (OpTag S)} {attach : Bool} {b : Nat} {l : String} {d : List Nat}
    (htag : attach = true → ∃ tg, tag = some tg ∧ tagOK tg kids) {P : Handle → Prop} (hk : ∀ k ∈ kids, P k) :
    let nr : NodeRec S := if attach then ⟨kids, tag, b, l, d⟩ else ⟨[], none, b, l, d⟩
    (∀ k ∈ nr.kids, P k) ∧ (∀ tg, nr.op = some tg → tagOK tg nr.kids) ∧ (nr.op = none → nr.kids = []) := by
  cases attach with
  | false =>
    simp only [Bool.false_eq_true, if_false]
    exact ⟨fun _ h => (nomatch h), fun _ h => (nomatch h), fun _ => trivial⟩
  | true =>
    obtain ⟨tg, rfl, h⟩ := htag rfl
    simp only [if_true]
    exact ⟨hk, fun _ e => Option.some.inj e ▸ h, fun e => (nomatch e)⟩

/-! what the recorded graph says at `n`, by whether there is such a node -/

theorem graph_some {σ : State S} {n : Nat} {r : NodeRec S} (h : σ.nodes[n]? = some r) :
    σ.graph.kids n = r.kids.map Handle.slot ∧
    σ.graph.vjp n = r.op.map fun tag t x => vjp tag (r.kids.map σ.tensorOf) ⟨[], σ.bufs.getD r.selfBuf []⟩ t x := by
  simp only [State.graph, h, and_self]

theorem graph_none {σ : State S} {n : Nat} (h : σ.nodes[n]? = none) : σ.graph.kids n = [] ∧ σ.graph.vjp n = none := by
  simp only [State.graph, h, and_self]

theorem graph_vjp_some {σ : State S} {n : Nat} {cl : Closure S} (hv : σ.graph.vjp n = some cl) :
    ∃ r tag, σ.nodes[n]? = some r ∧ r.op = some tag ∧
      cl = vjp tag (r.kids.map σ.tensorOf) ⟨[], σ.bufs.getD r.selfBuf []⟩ :=
  match hn : σ.nodes[n]?, hv with
  | some r, hv => by
    rw [(graph_some hn).2] at hv
    obtain ⟨tag, hop, rfl⟩ := Option.map_eq_some_iff.mp hv
    exact ⟨r, tag, rfl, hop, rfl⟩
  | none, hv => by rw [(graph_none hn).2] at hv; cases hv

theorem graph_wf (σ : State S) (hi : HeapInv σ) : σ.graph.WF := by
  intro n s hs
  cases hn : σ.nodes[n]? with
  | none => rw [(graph_none hn).1] at hs; cases hs
  | some r =>
    rw [(graph_some hn).1] at hs
    obtain ⟨k, hk, rfl⟩ := List.mem_map.mp hs
    exact (hi.older n r hn k hk).1

theorem estate_clean (σ : State S) (hi : HeapInv σ) : σ.estate.Clean := ⟨hi.clean.1, hi.clean.2⟩

theorem whenT_isSome {α} {b : Bool} {r : R α} {o : Option α} (h : whenT b r = .ok o) : o.isSome = b := by
  cases b with
  | false => cases h; rfl
  | true => cases r <;> cases h; rfl

theorem isSome_ite {α} (b : Bool) (x : α) : (if b then some x else none).isSome = b := by cases b <;> rfl

/-- the flag pattern a closure must answer with, given its tag -/
def flagsOK : OpTag S → List Bool → Prop
  | .add, t | .mul, t | .div, t | .custom 1, t => t.length = 2
  | .neg, t | .scale _, t | .powf _, t | .ln, t | .exp, t | .recip, t | .sum _, t | .relu, t | .sigmoid, t | .expand, t => t = [true]
  | .reshape, t | .unroll _ _ _ _ _ _ _, t | .custom 2, t => t.length = 1
  | .matmul _ _, t | .custom 3, t => t.length = 3
  | .custom 0, _ => True
  | .custom _, _ => False

theorem flagsOK_of_tagOK (tag : OpTag S) (kids : List Handle) (h : tagOK tag kids) :
    flagsOK tag (kids.map (·.tracked)) := by
  have len : ∀ n, kids.length = n → (kids.map (·.tracked)).length = n := fun n e => (List.length_map _).trans e
  have un : (kids.length = 1 ∧ ∀ h ∈ kids, h.tracked = true) → kids.map (·.tracked) = [true] := fun ⟨h1, h2⟩ => by
    obtain ⟨x, rfl⟩ := List.length_eq_one_iff.mp h1
    exact congrArg (fun b => [b]) (h2 x (List.mem_singleton_self x))
  cases tag with
  | add | mul | div | reshape | matmul | unroll => exact len _ h
  | neg | scale | powf | ln | exp | recip | sum | relu | sigmoid | expand => exact un h
  | custom kind =>
    rcases kind with _ | _ | _ | _ | k
    · trivial
    · exact len _ h
    · exact len _ h
    · exact len _ h
    · exact h.elim

theorem map_isSome_flags {α} (x : α) : ∀ t : List Bool,
    (t.map (fun b => if b then some x else none)).map Option.isSome = t
  | [] => rfl
  | b :: t => by rw [List.map_cons, List.map_cons, map_isSome_flags x t, isSome_ite]

theorem vjp_lawful (tag : OpTag S) (c : List (Tensor S)) (self : Tensor S) (t : List Bool) (x : Tensor S)
    (ds : List (Option (Tensor S))) (hf : flagsOK tag t) (h : vjp tag c self t x = .ok ds) :
    ds.map Option.isSome = t := by
  revert ds
  show Post _ _
  -- the closures end in one of four ways: `[some _]` whatever the flag (then `flagsOK` demands the flag) …
  have some1 : ∀ {A : R (Tensor S)} {B : Tensor S → R (Tensor S)},
      Post (do let c0 ← A; let r ← B c0; pure [some r]) (fun ds => ds.map Option.isSome = [true]) :=
    .bind fun _ _ => .bind fun _ _ => .pure rfl
  -- … or one `whenT` per flag, `matmul` and the ternary custom operation passing `x` on to the third operand
  have when1 : ∀ {a : Bool} {A : R (Tensor S)},
      Post (do let r ← whenT a A; pure [r]) (fun ds => ds.map Option.isSome = [a]) :=
    .bind fun _ h => .pure (by rw [List.map_singleton, whenT_isSome h])
  have when2 : ∀ {a b : Bool} {A B : R (Tensor S)},
      Post (do let r ← whenT a A; let s ← whenT b B; pure [r, s]) (fun ds => ds.map Option.isSome = [a, b]) :=
    .bind fun _ h => .bind fun _ k => .pure (by
      rw [List.map_cons, List.map_singleton, whenT_isSome h, whenT_isSome k])
  have when3 : ∀ {a b cc : Bool} {A B : R (Tensor S)},
      Post (do let r ← whenT a A; let s ← whenT b B; pure [r, s, if cc then some x else none])
        (fun ds => ds.map Option.isSome = [a, b, cc]) :=
    .bind fun _ h => .bind fun _ k => .pure (by
      rw [List.map_cons, List.map_cons, List.map_singleton, whenT_isSome h, whenT_isSome k, isSome_ite])
  -- with the flag list a literal, `flag t i` reduces to its entry, so each closure is one of these up to unfolding
  cases tag with
  | neg | scale => cases hf; exact .pure rfl
  | powf | ln | exp | recip | sum | expand | relu | sigmoid => cases hf; exact some1
  | add =>
    obtain ⟨a, b, rfl⟩ := length_eq_two hf
    exact .pure (by rw [List.map_cons, List.map_singleton, isSome_ite, isSome_ite])
  | mul | div =>
    obtain ⟨a, b, rfl⟩ := length_eq_two hf
    exact .bind fun _ _ => .bind fun _ _ => when2
  | reshape =>
    obtain ⟨a, rfl⟩ := List.length_eq_one_iff.mp hf
    exact .bind fun _ _ => when1
  | unroll =>
    obtain ⟨a, rfl⟩ := List.length_eq_one_iff.mp hf
    exact when1
  | matmul ta tb =>
    obtain ⟨a, b, cc, rfl⟩ := length_eq_three hf
    exact .bind fun _ _ => .bind fun _ _ => when3
  | custom kind =>
    rcases kind with _ | _ | _ | _ | k
    · exact .pure (map_isSome_flags x t)
    · obtain ⟨a, b, rfl⟩ := length_eq_two hf
      exact .bind fun _ _ => .bind fun _ _ => when2
    · obtain ⟨a, rfl⟩ := List.length_eq_one_iff.mp hf
      exact when1
    · obtain ⟨a, b, cc, rfl⟩ := length_eq_three hf
      exact .bind fun _ _ => .bind fun _ _ => when3
    · exact hf.elim

theorem graph_lawful (σ : State S) (hi : HeapInv σ) : σ.graph.Lawful := by
  intro n cl x ds hv hcl
  obtain ⟨r, tag, hn, hop, rfl⟩ := graph_vjp_some hv
  rw [(graph_some hn).1, List.map_map] at hcl ⊢
  exact vjp_lawful tag _ _ _ x ds (flagsOK_of_tagOK tag r.kids (hi.tags n r tag hn hop)) hcl

theorem ofFn_getD {α} (n : Nat) (f : Nat → α) (d : α) (i : Nat) :
    (Array.ofFn (n := n) (fun k => f k)).getD i d = if i < n then f i else d := by
  simp only [Array.getD_eq_getD_getElem?, Array.getElem?_ofFn]
  split <;> rfl

theorem withEState_grad_getD (σ : State S) (e : EState S) {m : Nat} (hm : m < σ.nodes.size) :
    (σ.withEState e).grad.getD m none = e.grad m :=
  (ofFn_getD _ _ _ _).trans (if_pos hm)

theorem heapInv_backward (σ σ' : State S) (hi : HeapInv σ) (h : Handle) (hv : h.node < σ.nodes.size)
    (seed : Option (Tensor S)) (hok : σ.backward h seed = .ok σ') : HeapInv σ' ∧ Mono σ σ' := by
  obtain ⟨e, hb, rfl⟩ := State.backward_ok hok
  have hc := (backward_counts σ.graph (graph_wf σ hi) (graph_lawful σ hi) (σ.nodes.size + 1) h.node
    (Nat.lt_succ_of_lt hv) h.dims h.keep seed σ.estate e (estate_clean σ hi) rfl hb).1
  -- the written-back arrays have one cell per node, each holding the engine's (clean) value
  have cell : ∀ {α} (f : Nat → α) (d : α), (∀ i, f i = d) →
      ∀ i, (Array.ofFn (n := σ.nodes.size) fun k => f k).getD i d = d :=
    fun f d hf i => by rw [ofFn_getD, hf i, ite_self]
  exact ⟨⟨by simp [State.withEState], hi.older, hi.tags, hi.noop, cell _ _ hc.1, cell _ _ hc.2⟩,
    Nat.le_refl _, Nat.le_refl _, rfl, rfl, rfl⟩

end Corgi
