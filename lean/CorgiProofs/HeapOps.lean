/-
  CorgiProofs.HeapOps — what every handle-level operation does to the heap: it only allocates
  (`Grows`; with one result handle, `Allocs`).  Old buffers stay (C08), the heap invariant is kept and the
  result is a valid handle, and the result's tracking flag is the disjunction of the operands' (C09).  One
  statement per operation; a composite follows from its stages by `OpSpec.andThen`.
-/
import CorgiProofs.HeapInv

set_option linter.unusedSectionVars false

namespace Corgi
variable {S : Type} [Add S] [Mul S] [Neg S] [Sub S] [ScalarOps S] [BEq S]

/-- `σ'` arose from `σ` by allocation only: buffers and heap only grew; if the heap was in order and the
    operands were valid (`V`), it still is and the results are valid (`Q`). -/
structure Grows (σ : State S) (V : Prop) (σ' : State S) (Q : Prop) : Prop where
  ext : BufExt σ σ'
  mono : Mono σ σ'
  inv : HeapInv σ → V → HeapInv σ' ∧ Q

theorem Grows.same (σ : State S) {V Q : Prop} (h : V → Q) : Grows σ V σ Q :=
  ⟨.refl σ, .refl σ, fun hi v => ⟨hi, h v⟩⟩

/-- a stage followed by a stage whose operands are operands of the whole or results of the first -/
theorem Grows.trans {σ σ1 σ2 : State S} {V V1 V2 Q1 Q : Prop} (h1 : Grows σ V1 σ1 Q1) (hV1 : V → V1)
    (h2 : Grows σ1 V2 σ2 Q) (hV2 : Mono σ σ1 → Q1 → V → V2) : Grows σ V σ2 Q :=
  ⟨h1.ext.trans h2.ext, h1.mono.trans h2.mono,
   fun hi v => have h := h1.inv hi (hV1 v); h2.inv h.1 (hV2 h1.mono h.2 v)⟩

/-- The outcome `p` of an operation started in `σ`: it only allocated, the result is valid, and its
    tracking flag is `b`. -/
structure Allocs (σ : State S) (V : Prop) (b : Bool) (p : State S × Handle) : Prop
    extends Grows σ V p.1 (p.2.Valid p.1) where
  trk : p.2.tracked = b

abbrev OpSpec (σ : State S) (V : Prop) (b : Bool) (r : R (State S × Handle)) : Prop := Post r (Allocs σ V b)

/-- returning an operand as it is (`sum` over no dimension, no activation) -/
theorem Allocs.same (σ : State S) (a : Handle) : Allocs σ (a.Valid σ) a.tracked (σ, a) := ⟨.same σ id, rfl⟩

theorem Allocs.alloc {σ : State S} {t : Tensor S} {kids : List Handle} {tag : Option (OpTag S)} {attach : Bool}
    {label : String} {V : Prop} (hk : V → ∀ k ∈ kids, k.Valid σ)
    (htag : attach = true → ∃ tg, tag = some tg ∧ tagOK tg kids) :
    Allocs σ V attach (σ.alloc t kids tag attach label) :=
  have hb := size_lt_push σ.bufs t.vals
  ⟨⟨Pre.push _ _, ⟨Nat.le_of_lt (size_lt_push ..), Nat.le_of_lt hb, rfl, rfl, rfl⟩, fun hi v =>
    have ⟨h1, h2, h3⟩ := attachRec_ok (b := σ.bufs.size) (l := label) (d := t.dims) htag (hk v)
    ⟨heapInv_push hi rfl rfl rfl (Array.size_push ..) (Nat.le_of_lt hb)
      (fun k hkm => ⟨(h1 k hkm).1, Nat.lt_trans (h1 k hkm).2 hb⟩) h2 h3, size_lt_push .., hb⟩⟩, rfl⟩

/-- a view: a new node over the existing buffer `buf` -/
theorem Allocs.allocView {σ : State S} {dims : List Nat} {buf : Nat} {kids : List Handle} {tag : Option (OpTag S)}
    {attach : Bool} {V : Prop} (hb : V → buf < σ.bufs.size) (hk : V → ∀ k ∈ kids, k.Valid σ)
    (htag : attach = true → ∃ tg, tag = some tg ∧ tagOK tg kids) :
    Allocs σ V attach (σ.allocView dims buf kids tag attach) :=
  ⟨⟨.refl σ, ⟨Nat.le_of_lt (size_lt_push ..), Nat.le_refl _, rfl, rfl, rfl⟩, fun hi v =>
    have ⟨h1, h2, h3⟩ := attachRec_ok (b := buf) (l := "") (d := dims) htag (hk v)
    ⟨heapInv_push hi rfl rfl rfl (Array.size_push ..) (Nat.le_refl _) h1 h2 h3, size_lt_push .., hb v⟩⟩, rfl⟩

theorem Allocs.trans {σ : State S} {V V1 V2 : Prop} {b1 b : Bool} {p q : State S × Handle}
    (h1 : Allocs σ V1 b1 p) (hV1 : V → V1) (h2 : Allocs p.1 V2 b q) (hV2 : Mono σ p.1 → p.2.Valid p.1 → V → V2) :
    Allocs σ V b q := ⟨h1.toGrows.trans hV1 h2.toGrows hV2, h2.trk⟩

theorem OpSpec.andThen {σ : State S} {V V1 : Prop} {V2 : State S → Handle → Prop} {b1 b : Bool}
    {r : R (State S × Handle)} {f : State S × Handle → R (State S × Handle)}
    (h1 : OpSpec σ V1 b1 r) (hV1 : V → V1)
    (h2 : ∀ σ1 x, x.tracked = b1 → OpSpec σ1 (V2 σ1 x) b (f (σ1, x)))
    (hV2 : ∀ σ1 x, Mono σ σ1 → x.Valid σ1 → V → V2 σ1 x) : OpSpec σ V b (r >>= f) :=
  .bind fun p e => have h := h1 p e; (h2 p.1 p.2 h.trk).mono fun _ hq => h.trans hV1 hq (hV2 p.1 p.2)

theorem OpSpec.flag {σ : State S} {V : Prop} {b b' : Bool} {r : R (State S × Handle)} (h : OpSpec σ V b r) (e : b = b') :
    OpSpec σ V b' r := e ▸ h

/-! what C08 (`ext`), the invariant walk (`inv`) and C09 (`trk`) read off a specification -/

theorem OpSpec.ext {σ : State S} {V : Prop} {b : Bool} {r : R (State S × Handle)} (h : OpSpec σ V b r) : OpExt σ r :=
  .of_post (h.mono fun _ a => a.ext)

def OpInv (σ : State S) (r : R (State S × Handle)) : Prop :=
  ∀ σ' h, r = .ok (σ', h) → HeapInv σ' ∧ h.Valid σ' ∧ Mono σ σ'

theorem OpSpec.inv {σ : State S} {V : Prop} {b : Bool} {r : R (State S × Handle)} (h : OpSpec σ V b r)
    (hi : HeapInv σ) (v : V) : OpInv σ r :=
  fun σ' x e => have a := h (σ', x) e; ⟨(a.inv hi v).1, (a.inv hi v).2, a.mono⟩

theorem opInv_throw (σ : State S) (p : Panic) : OpInv σ (throw p : R (State S × Handle)) := fun _ _ e => nomatch e

def TrkIs (r : R (State S × Handle)) (b : Bool) : Prop := ∀ σ' h, r = .ok (σ', h) → h.tracked = b

theorem OpSpec.trk {σ : State S} {V : Prop} {b : Bool} {r : R (State S × Handle)} (h : OpSpec σ V b r) : TrkIs r b :=
  fun σ' x e => (h (σ', x) e).trk

theorem valid1 {σ : State S} {a : Handle} (ha : a.Valid σ) : ∀ k ∈ [a], k.Valid σ :=
  fun _ hk => List.mem_singleton.mp hk ▸ ha

theorem valid2 {σ : State S} {a b : Handle} (ha : a.Valid σ) (hb : b.Valid σ) : ∀ k ∈ [a, b], k.Valid σ :=
  List.forall_mem_cons.mpr ⟨ha, valid1 hb⟩

theorem valid3 {σ : State S} {a b c : Handle} (ha : a.Valid σ) (hb : b.Valid σ) (hc : c.Valid σ) :
    ∀ k ∈ [a, b, c], k.Valid σ := List.forall_mem_cons.mpr ⟨ha, valid2 hb hc⟩

theorem tagOK_un {a : Handle} (h : a.tracked = true) : (1 : Nat) = 1 ∧ ∀ k ∈ [a], k.tracked = true :=
  ⟨rfl, fun _ hk => List.mem_singleton.mp hk ▸ h⟩

theorem hLeaf_spec (σ : State S) (t : Tensor S) : Allocs σ True false (hLeaf σ t) :=
  .alloc (fun _ _ h => nomatch h) fun h => nomatch h

theorem hEwise_spec (tag : OpTag S) (f : Tensor S → Tensor S → R (Tensor S)) (σ : State S) (a b : Handle)
    (ht : tagOK tag [a, b]) : OpSpec σ (a.Valid σ ∧ b.Valid σ) (a.tracked || b.tracked) (hEwise tag f σ a b) :=
  .bind fun _ _ => .pure (.alloc (fun v => valid2 v.1 v.2) fun _ => ⟨tag, rfl, ht⟩)

theorem hUnary_spec (tag : OpTag S) (f : Tensor S → Tensor S) (σ : State S) (a : Handle)
    (ht : a.tracked = true → tagOK tag [a]) : OpSpec σ (a.Valid σ) a.tracked (hUnary tag f σ a) :=
  .pure (.alloc valid1 fun h => ⟨tag, rfl, ht h⟩)

theorem hSum_spec (σ : State S) (a : Handle) (k : Nat) : OpSpec σ (a.Valid σ) a.tracked (hSum σ a k) :=
  .ite (.pure (.same σ a)) (.bind fun _ _ => .pure (.alloc valid1 fun h => ⟨_, rfl, tagOK_un h⟩))

theorem hReshape_spec (σ : State S) (a : Handle) (dims : List Nat) :
    OpSpec σ (a.Valid σ) a.tracked (hReshape σ a dims) :=
  .bind fun _ _ => .pure (.allocView And.right valid1 fun _ => ⟨_, rfl, rfl⟩)

/-- the third stored operand of `matmul` is `c`, or a fresh untracked leaf -/
theorem hMatmul_spec (σ : State S) (a : Handle) (ta : Bool) (b : Handle) (tb : Bool) (c : Option Handle) :
    OpSpec σ (a.Valid σ ∧ b.Valid σ ∧ ∀ x, c = some x → x.Valid σ)
      (a.tracked || b.tracked || (match c with | some c => c.tracked | none => false)) (hMatmul σ a ta b tb c) :=
  .bind fun t _ => by
    cases c with
    | some c => exact .pure (.alloc (fun v => valid3 v.1 v.2.1 (v.2.2 c rfl)) fun _ => ⟨_, rfl, rfl⟩)
    | none =>
      exact .pure ((hLeaf_spec σ ⟨[1], [zero]⟩).trans (fun _ => trivial)
        (.alloc (V := _ ∧ _ ∧ _) (fun v => valid3 v.1 v.2.1 v.2.2) fun _ => ⟨_, rfl, rfl⟩)
        fun m hz v => ⟨m.valid v.1, m.valid v.2.1, hz⟩)

theorem hUnroll_spec (σ : State S) (image : Handle) (sr sc fr fc : Nat) :
    OpSpec σ (image.Valid σ) image.tracked (hUnroll σ image sr sc fr fc) :=
  .bind fun _ _ => .bind fun _ _ => .bind fun _ _ => .bind fun _ _ => .pure (.alloc valid1 fun _ => ⟨_, rfl, rfl⟩)

theorem hExpand_spec (σ : State S) (a : Handle) (r c : Nat) : OpSpec σ (a.Valid σ) a.tracked (hExpand σ a r c) :=
  .bind fun _ _ => .pure (.alloc valid1 fun h => ⟨_, rfl, tagOK_un h⟩)

theorem customArity_ok {kind n : Nat} (h : customArity kind n = .ok ()) (kids : List Handle) (hn : kids.length = n) :
    tagOK (.custom kind : OpTag S) kids := by
  have arity : ∀ {m : Nat}, (if n = m then pure () else throw Panic.modelGap : R Unit) = .ok () → kids.length = m := by
    intro m h; split at h
    · next e => exact hn.trans e
    · cases h
  rcases kind with _ | _ | _ | _ | k
  · trivial
  · exact arity h
  · exact arity h
  · exact arity h
  · cases h

/-- the harness-defined operations always attach their graph -/
theorem hCustom_spec (σ : State S) (kind : Nat) (label : String) (args : List Handle) :
    OpSpec σ (∀ k ∈ args, k.Valid σ) true (hCustom σ kind label args) :=
  .bind fun _ hu => .bind fun _ _ => .bind fun _ _ => .bind fun _ _ =>
    .pure (.alloc id fun _ => ⟨_, rfl, customArity_ok hu args rfl⟩)

theorem hSub_spec (σ : State S) (a b : Handle) :
    OpSpec σ (a.Valid σ ∧ b.Valid σ) (a.tracked || b.tracked) (hSub σ a b) :=
  .andThen (hUnary_spec _ _ σ b tagOK_un) And.right
    (fun σ1 nb e => (hEwise_spec .add _ σ1 a nb rfl).flag (e ▸ rfl)) fun _ _ m hx v => ⟨m.valid v.1, hx⟩

theorem hAxpy_spec (σ : State S) (s : S) (x y : Handle) :
    OpSpec σ (x.Valid σ ∧ y.Valid σ) (x.tracked || y.tracked) (hAxpy σ s x y) :=
  .andThen (hUnary_spec _ _ σ x tagOK_un) And.left
    (fun σ1 sx e => (hEwise_spec .add _ σ1 sx y rfl).flag (e ▸ rfl)) fun _ _ m hx v => ⟨hx, m.valid v.2⟩

theorem hSoftmax_spec (σ : State S) (a : Handle) : OpSpec σ (a.Valid σ) a.tracked (hSoftmax σ a) :=
  .andThen (hUnary_spec _ _ σ a tagOK_un) id
    (fun σ1 e he => .andThen (V := e.Valid σ1) (hSum_spec σ1 e 1) id
      (fun σ2 s hs => (hEwise_spec .div _ σ2 e s rfl).flag (by rw [hs, Bool.or_self, he]))
      fun _ _ m hx v => ⟨m.valid v, hx⟩)
    fun _ _ _ hx _ => hx

theorem hConv_spec (σ : State S) (image filters : Handle) (sr sc : Nat) :
    OpSpec σ (image.Valid σ ∧ filters.Valid σ) (image.tracked || filters.tracked) (hConv σ image filters sr sc) :=
  .bind fun prm _ =>
  OpSpec.andThen (hUnroll_spec σ image sr sc _ _) And.left
    (fun σ1 un hu => .bind fun _ _ =>
      OpSpec.andThen (V := un.Valid σ1 ∧ filters.Valid σ1) (hReshape_spec σ1 filters _) And.right
        (fun σ2 fm hfm =>
          .andThen (V := un.Valid σ2 ∧ fm.Valid σ2) (hMatmul_spec σ2 un false fm true none)
            (fun v => ⟨v.1, v.2, fun _ e => nomatch e⟩)
            (fun σ3 cv hcv => (hExpand_spec σ3 cv _ _).flag (by rw [hcv, hu, hfm, Bool.or_false]))
            fun _ _ _ hx _ => hx)
        fun _ _ m hx v => ⟨m.valid v.1, hx⟩)
    fun _ _ m hx v => ⟨hx, m.valid v.2⟩

theorem hMse_spec (σ : State S) (o t : Handle) :
    OpSpec σ (o.Valid σ ∧ t.Valid σ) (t.tracked || o.tracked) (hMse σ o t) :=
  .andThen (hSub_spec σ t o) And.symm
    (fun σ1 d hd => .andThen (V := d.Valid σ1) (hUnary_spec _ _ σ1 d tagOK_un) id
      (fun σ2 p hp => (hUnary_spec _ _ σ2 p tagOK_un).flag (hp.trans hd)) fun _ _ _ hx _ => hx)
    fun _ _ _ hx _ => hx

theorem hXent_spec (σ : State S) (o t : Handle) :
    OpSpec σ (o.Valid σ ∧ t.Valid σ) (t.tracked || o.tracked) (hXent σ o t) :=
  .bind fun _ _ =>
  OpSpec.andThen (hUnary_spec _ _ σ t tagOK_un) And.right
    (fun σ1 nt hnt => .andThen (V := nt.Valid σ1 ∧ o.Valid σ1) (hUnary_spec _ _ σ1 o tagOK_un) And.right
      (fun σ2 lo hlo => .andThen (V := nt.Valid σ2 ∧ lo.Valid σ2) (hEwise_spec .mul _ σ2 nt lo rfl) id
        (fun σ3 p hp => (hUnary_spec _ _ σ3 p tagOK_un).flag (by rw [hp, hnt, hlo])) fun _ _ _ hx _ => hx)
      fun _ _ m hx v => ⟨m.valid v.1, hx⟩)
    fun _ _ m hx v => ⟨hx, m.valid v.1⟩

theorem hAct_spec (σ : State S) (act : Act) (a : Handle) : OpSpec σ (a.Valid σ) a.tracked (hAct σ act a) := by
  cases act with
  | none => exact .pure (.same σ a)
  | relu | sigmoid => exact hUnary_spec _ _ σ a tagOK_un
  | softmax => exact hSoftmax_spec σ a

theorem layerForward_spec (σ : State S) (l : Layer) (input : Handle) :
    OpSpec σ (input.Valid σ ∧ ∀ h ∈ layerParams l, h.Valid σ)
      (match l with
       | .dense w b _ => input.tracked || w.tracked || b.tracked
       | .conv f b _ _ _ => input.tracked || f.tracked || b.tracked) (layerForward σ l input) := by
  cases l with
  | dense w b act =>
    exact .andThen (hMatmul_spec σ input false w true (some b))
      (fun v => ⟨v.1, v.2 w (.head _), fun _ e => Option.some.inj e ▸ v.2 b (.tail _ (.head _))⟩)
      (fun σ1 r hr => (hAct_spec σ1 act r).flag hr) fun _ _ _ hx _ => hx
  | conv f b sr sc act =>
    exact .andThen (hConv_spec σ input f sr sc) (fun v => ⟨v.1, v.2 f (.head _)⟩)
      (fun σ1 c hc => .andThen (V := c.Valid σ1 ∧ b.Valid σ1) (hEwise_spec .add _ σ1 c b rfl) id
        (fun σ2 r hr => (hAct_spec σ2 act r).flag (by rw [hr, hc])) fun _ _ _ hx _ => hx)
      fun _ _ m hx v => ⟨hx, m.valid (v.2 b (.tail _ (.head _)))⟩

end Corgi
