/-
  CorgiProofs.Instances — concrete instances used by non-vacuity examples: integers as scalars, and a
  self-product-shaped graph (every node consumes its predecessor twice) with a `Sem`.
-/
import CorgiProofs.PathSum

namespace Corgi

instance : ScalarOps Int where
  zero := 0
  one := 1
  ofNat n := (n : Int)
  div a b := a / b
  exp x := x
  ln x := x
  powf x _ := x
  pos x := decide (0 < x)

instance : AddLaws Int where
  add_comm := Int.add_comm
  add_assoc := Int.add_assoc
  zero_add := Int.zero_add

/-- node `n > 0` consumes node `n - 1` twice (2^n paths to node 0); closures pass the delta on -/
def chain2 : Graph Int where
  kids := fun n => if n = 0 then [] else [⟨n - 1, [1], true, true⟩, ⟨n - 1, [1], true, true⟩]
  vjp := fun n => if n = 0 then none else some (fun _ x => pure [some x, some x])

theorem chain2_kids (n : Nat) (hn : n ≠ 0) :
    chain2.kids n = [⟨n - 1, [1], true, true⟩, ⟨n - 1, [1], true, true⟩] := if_neg hn

theorem chain2_wf : chain2.WF := by
  intro n s hs
  by_cases hn : n = 0
  · subst hn; cases hs
  · rw [chain2_kids n hn] at hs
    have : s.node = n - 1 := by
      rcases List.mem_cons.mp hs with rfl | hs
      · rfl
      · cases List.mem_singleton.mp hs; rfl
    rw [this]; exact Nat.sub_one_lt hn

theorem chain2_lawful : chain2.Lawful := by
  intro n cl x ds hv hcl
  by_cases hn : n = 0
  · subst hn; cases hv
  · rw [chain2_kids n hn] at hcl ⊢
    cases ((if_neg hn).symm.trans hv : some _ = some cl)
    cases hcl; rfl

theorem flattenTo_same (x : Tensor Int) : flattenTo x x.dims = .ok x := by
  simp [flattenTo]

/-- the value-level description of `chain2`: every node has dimensions `[1]`, contributions are the
    delta itself -/
def chain2Sem : Sem chain2 where
  dimsOf := fun _ => [1]
  Λ := fun _ _ x => x
  κ := fun _ => true
  slotDims := by
    intro n s hs
    simp only [chain2] at hs
    split at hs
    · simp at hs
    · simp at hs; rcases hs with rfl | rfl <;> rfl
  dimsValid := fun _ => ⟨by simp, by simp⟩
  local_ := by
    intro n cl x ds hv hx hcl
    simp only [chain2] at hv hcl ⊢
    split at hv
    · simp at hv
    · rename_i hn
      simp at hv; subst hv
      simp [hn, pure, Except.pure] at hcl
      subst hcl
      refine ⟨by simp [hn], ?_⟩
      intro i s hs
      simp only [hn, if_false] at hs
      have hsd : s.dims = x.dims := by
        rw [hx.1]
        match i, hs with
        | 0, hs => simp at hs; subst hs; rfl
        | 1, hs => simp at hs; subst hs; rfl
        | i + 2, hs => simp at hs
      have hst : s.tracked = true := by
        match i, hs with
        | 0, hs => simp at hs; subst hs; rfl
        | 1, hs => simp at hs; subst hs; rfl
        | i + 2, hs => simp at hs
      constructor
      · intro h; rw [hst] at h; cases h
      · intro _
        refine ⟨x, ?_, ?_⟩
        · match i, hs with
          | 0, _ => rfl
          | 1, _ => rfl
          | i + 2, hs => simp at hs
        · intro t ht
          rw [hsd, flattenTo_same] at ht
          cases ht; rfl
  shapedΛ := by
    intro n i s x hs _ hx
    simp only [chain2] at hs
    split at hs
    · simp at hs
    · have : s.dims = [1] := by
        match i, hs with
        | 0, hs => simp at hs; subst hs; rfl
        | 1, hs => simp at hs; subst hs; rfl
        | i + 2, hs => simp at hs
      rw [this]; exact hx
  additive := fun _ _ _ _ _ _ _ _ => rfl

end Corgi
