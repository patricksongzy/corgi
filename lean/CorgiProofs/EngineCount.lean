/-
  CorgiProofs.EngineCount — L3a, first half: `propagate_consumers` counts, for every node, exactly
  the tracked uses it has inside the graph reachable from the root (value-free; core Lean only).

  The invariant is quantified over a "still to count" function `pend` (the uncounted remaining
  operands of the callers on the stack), which makes it inductive without talking about the stack.
-/
import CorgiModel.Engine

namespace Corgi
open Classical

variable {S : Type}

theorem upd_self {α} (f : Nat → α) (k : Nat) (v : α) : upd f k v k = v := if_pos rfl

theorem upd_of_ne {α} (f : Nat → α) {k i : Nat} (v : α) (h : i ≠ k) : upd f k v i = f i := if_neg h

theorem upd_succ (c : Nat → Nat) (k m : Nat) : upd c k (c k + 1) m = c m + if k = m then 1 else 0 := by
  by_cases h : k = m
  · subst h; rw [upd_self, if_pos rfl]
  · rw [upd_of_ne _ _ (Ne.symm h), if_neg h]; rfl

theorem upd_pred (c : Nat → Nat) (k m : Nat) (hk : c k ≠ 0) :
    upd c k (c k - 1) m + (if k = m then 1 else 0) = c m := by
  by_cases h : k = m
  · subst h; rw [upd_self, if_pos rfl]; exact Nat.sub_add_cancel (Nat.pos_of_ne_zero hk)
  · rw [upd_of_ne _ _ (Ne.symm h), if_neg h]; rfl

theorem upd_pred_pos (c : Nat → Nat) (k m : Nat) (hm : 1 ≤ c m) (h0 : c k ≠ 0) (h1 : c k ≠ 1) :
    1 ≤ upd c k (c k - 1) m := by
  by_cases h : m = k
  · subst h; rw [upd_self]
    exact Nat.le_sub_one_of_lt (Nat.lt_of_le_of_ne (Nat.pos_of_ne_zero h0) (Ne.symm h1))
  · rw [upd_of_ne _ _ h]; exact hm

/-- number of tracked stored operands in `ks` that are node `m` -/
def edges : List Slot → Nat → Nat
  | [], _ => 0
  | s :: ks, m => (if s.node = m ∧ s.tracked = true then 1 else 0) + edges ks m

theorem edges_nil (m : Nat) : edges [] m = 0 := by rfl

theorem edges_cons (s : Slot) (ks : List Slot) (m : Nat) :
    edges (s :: ks) m = (if s.node = m ∧ s.tracked = true then 1 else 0) + edges ks m := by rfl

theorem edges_cons_tracked {s : Slot} (ht : s.tracked = true) (ks : List Slot) (m : Nat) :
    edges (s :: ks) m = (if s.node = m then 1 else 0) + edges ks m := by simp only [edges_cons, ht, and_true]

theorem edges_cons_untracked {s : Slot} (ht : s.tracked = false) (ks : List Slot) (m : Nat) :
    edges (s :: ks) m = edges ks m := by
  simp only [edges_cons, ht, Bool.false_eq_true, and_false, if_false, Nat.zero_add]

/-- nodes reachable from `root` through tracked stored operands -/
inductive Reach (G : Graph S) (root : Nat) : Nat → Prop
  | root : Reach G root root
  | step {n : Nat} (s : Slot) : Reach G root n → s ∈ G.kids n → s.tracked = true → Reach G root s.node

/-- stored operands always belong to older nodes (ids are allocation order) -/
def Graph.WF (G : Graph S) : Prop := ∀ n s, s ∈ G.kids n → s.node < n

theorem Reach.le {G : Graph S} (wf : G.WF) {root m : Nat} (h : Reach G root m) : m ≤ root := by
  induction h with
  | root => exact Nat.le_refl _
  | step s _ hs _ ih => exact Nat.le_trans (Nat.le_of_lt (wf _ s hs)) ih

theorem edges_pos_iff {ks : List Slot} {m : Nat} : 0 < edges ks m ↔ ∃ s ∈ ks, s.node = m ∧ s.tracked = true := by
  induction ks with
  | nil => exact ⟨fun h => absurd h (Nat.lt_irrefl 0), fun ⟨_, h, _⟩ => nomatch h⟩
  | cons k ks ih =>
    simp only [edges_cons, List.mem_cons, exists_eq_or_imp]
    by_cases hk : k.node = m ∧ k.tracked = true
    · simp only [hk, and_self, if_true, true_or, iff_true]; exact Nat.add_pos_left Nat.one_pos _
    · simp only [hk, if_false, Nat.zero_add, false_or]; exact ih

theorem edges_pos {ks : List Slot} {s : Slot} (hs : s ∈ ks) (ht : s.tracked = true) : 1 ≤ edges ks s.node :=
  edges_pos_iff.mpr ⟨s, hs, rfl, ht⟩

theorem Graph.WF.lt_of_edge {G : Graph S} (wf : G.WF) {p m : Nat} (h : 0 < edges (G.kids p) m) : m < p := by
  obtain ⟨s, hs, rfl, _⟩ := edges_pos_iff.mp h
  exact wf p s hs

/-- `Σ_{p < B, P p} edges (kids p) m` -/
noncomputable def indeg (G : Graph S) (P : Nat → Prop) (m : Nat) : Nat → Nat
  | 0 => 0
  | B + 1 => indeg G P m B + (if P B then edges (G.kids B) m else 0)

theorem indeg_succ (G : Graph S) (P : Nat → Prop) (m B : Nat) :
    indeg G P m (B + 1) = indeg G P m B + (if P B then edges (G.kids B) m else 0) := by rfl

theorem indeg_congr (G : Graph S) (P Q : Nat → Prop) (m : Nat) :
    ∀ B, (∀ p, p < B → (P p ↔ Q p)) → indeg G P m B = indeg G Q m B := by
  intro B
  induction B with
  | zero => intro _; rfl
  | succ B ih =>
    intro h
    have hB : P B ↔ Q B := h B (Nat.lt_succ_self B)
    rw [indeg_succ, indeg_succ, ih (fun p hp => h p (Nat.lt_succ_of_lt hp))]
    by_cases hq : Q B
    · rw [if_pos hq, if_pos (hB.mpr hq)]
    · rw [if_neg hq, if_neg (mt hB.mp hq)]

theorem indeg_insert (G : Graph S) (P : Nat → Prop) (m k : Nat) (hk : ¬ P k) :
    ∀ B, k < B → indeg G (fun p => P p ∨ p = k) m B = indeg G P m B + edges (G.kids k) m := by
  intro B
  induction B with
  | zero => exact fun h => absurd h (Nat.not_lt_zero _)
  | succ B ih =>
    intro h
    by_cases hB : k = B
    · subst hB
      rw [indeg_succ, indeg_succ, indeg_congr G _ P m k fun p hp => or_iff_left (Nat.ne_of_lt hp), if_pos (.inr rfl),
        if_neg hk, Nat.add_zero]
    · have hne : ¬ (B = k) := fun e => hB e.symm
      simp only [indeg_succ, ih (Nat.lt_of_le_of_ne (Nat.le_of_lt_succ h) hB), hne, or_false]
      exact Nat.add_right_comm ..

theorem indeg_ge (G : Graph S) (P : Nat → Prop) (m p : Nat) (hp : P p) :
    ∀ B, p < B → edges (G.kids p) m ≤ indeg G P m B := by
  intro B
  induction B with
  | zero => exact fun h => absurd h (Nat.not_lt_zero _)
  | succ B ih =>
    intro h
    simp only [indeg_succ]
    by_cases hB : p = B
    · subst hB; rw [if_pos hp]; exact Nat.le_add_left ..
    · exact Nat.le_trans (ih (Nat.lt_of_le_of_ne (Nat.le_of_lt_succ h) hB)) (Nat.le_add_right ..)

theorem indeg_pos (G : Graph S) (P : Nat → Prop) (m : Nat) :
    ∀ B, 0 < indeg G P m B → ∃ p, p < B ∧ P p ∧ 0 < edges (G.kids p) m := by
  intro B
  induction B with
  | zero => intro h; exact absurd h (Nat.lt_irrefl 0)
  | succ B ih =>
    intro h
    rw [indeg_succ] at h
    by_cases h0 : 0 < indeg G P m B
    · obtain ⟨p, hp, h1, h2⟩ := ih h0
      exact ⟨p, Nat.lt_succ_of_lt hp, h1, h2⟩
    · rw [Nat.eq_zero_of_not_pos h0, Nat.zero_add] at h
      split at h
      · exact ⟨B, Nat.lt_succ_self B, ‹_›, h⟩
      · exact absurd h (Nat.lt_irrefl 0)

theorem indeg_zero (G : Graph S) (P : Nat → Prop) (m : Nat) :
    ∀ B, (∀ p, p < B → P p → edges (G.kids p) m = 0) → indeg G P m B = 0 := by
  intro B h
  refine Nat.eq_zero_of_not_pos fun hpos => ?_
  obtain ⟨p, hp, h1, h2⟩ := indeg_pos G P m B hpos
  exact Nat.lt_irrefl 0 (h p hp h1 ▸ h2)

/-- visited: the root, and every node with a positive count -/
def Vis (c : Cnt) (root p : Nat) : Prop := p = root ∨ 0 < c.get p

structure PInv (G : Graph S) (root B : Nat) (c : Cnt) (pend : Nat → Nat) : Prop where
  acct : ∀ m, c.get m + pend m = indeg G (Vis c root) m B
  reach : ∀ m, 0 < c.get m → Reach G root m ∧ m < root

theorem PInv.pend_congr {G : Graph S} {root B : Nat} {c : Cnt} {pend pend' : Nat → Nat}
    (h : PInv G root B c pend) (hp : ∀ m, pend m = pend' m) : PInv G root B c pend' :=
  ⟨fun m => hp m ▸ h.acct m, h.reach⟩

theorem Vis_count (c : Cnt) (root k p : Nat) : Vis (c.set k (c.get k + 1)) root p ↔ Vis c root p ∨ p = k := by
  unfold Vis
  show p = root ∨ 0 < upd c.get k (c.get k + 1) p ↔ _
  by_cases hp : p = k
  · subst hp; rw [upd_self]; exact ⟨fun _ => .inr rfl, fun _ => .inr (Nat.succ_pos _)⟩
  · rw [upd_of_ne _ _ hp]; exact ⟨.inl, fun h => h.resolve_right hp⟩

theorem propKids_cons (rec : Nat → Cnt → Cnt) (s : Slot) (ss : List Slot) (c : Cnt) :
    propKids rec (s :: ss) c =
      if s.tracked then
        propKids rec ss (if c.get s.node = 0 then rec s.node (c.set s.node (c.get s.node + 1))
          else c.set s.node (c.get s.node + 1))
      else propKids rec ss c := by rfl

section
variable (G : Graph S) (root B : Nat) (hB : root < B) (wf : G.WF)
include hB wf

theorem propKids_inv (f : Nat)
    (ih : ∀ n c pend, n < f → Reach G root n → Vis c root n →
        PInv G root B c (fun m => pend m + edges (G.kids n) m) → PInv G root B (propagate G f n c) pend)
    (n : Nat) (hnf : n ≤ f) (hRn : Reach G root n) :
    ∀ (ks : List Slot) (c : Cnt) (pend : Nat → Nat), (∀ s ∈ ks, s ∈ G.kids n) →
      PInv G root B c (fun m => pend m + edges ks m) →
      PInv G root B (propKids (propagate G f) ks c) pend := by
  intro ks
  induction ks with
  | nil => exact fun c pend _ h => h
  | cons s ks ihks =>
    intro c pend hsub h
    have hs : s ∈ G.kids n := hsub s (List.mem_cons_self ..)
    have hsub' : ∀ t ∈ ks, t ∈ G.kids n := fun t ht => hsub t (List.mem_cons_of_mem _ ht)
    rw [propKids_cons]
    cases ht : s.tracked with
    | false => exact ihks c pend hsub' (h.pend_congr fun m => by rw [edges_cons_untracked ht])
    | true =>
      rw [if_pos rfl]
      have hkr : s.node < root := Nat.lt_of_lt_of_le (wf n s hs) (hRn.le wf)
      have hRk : Reach G root s.node := Reach.step s hRn hs ht
      -- the incremented counts: one pending operand has become a counted one
      have hc1 : ∀ m, (c.set s.node (c.get s.node + 1)).get m = c.get m + (if s.node = m then 1 else 0) :=
        upd_succ c.get s.node
      have hacct : ∀ m, (c.set s.node (c.get s.node + 1)).get m + (pend m + edges ks m) = indeg G (Vis c root) m B :=
        fun m => by
          rw [hc1 m, ← h.acct m, edges_cons_tracked ht, Nat.add_assoc, Nat.add_left_comm (if s.node = m then 1 else 0)]
      have hreach : ∀ m, 0 < (c.set s.node (c.get s.node + 1)).get m → Reach G root m ∧ m < root := fun m hm => by
        by_cases hms : s.node = m
        · subst hms; exact ⟨hRk, hkr⟩
        · rw [hc1 m, if_neg hms] at hm; exact h.reach m hm
      by_cases hold : c.get s.node = 0
      · -- first visit: the node joins the visited set and all its operands become pending
        rw [if_pos hold]
        have hnotV : ¬ Vis c root s.node := fun hv => hv.elim (Nat.ne_of_lt hkr) fun h0 => Nat.ne_of_gt h0 hold
        refine ihks _ pend hsub' (ih s.node _ (fun m => pend m + edges ks m) (Nat.lt_of_lt_of_le (wf n s hs) hnf) hRk
          ((Vis_count c root s.node s.node).mpr (.inr rfl)) ⟨fun m => ?_, hreach⟩)
        rw [indeg_congr G _ _ m B (fun p _ => Vis_count c root s.node p),
          indeg_insert G _ m s.node hnotV B (Nat.lt_trans hkr hB), ← hacct m]
        exact (Nat.add_assoc ..).symm
      · -- already visited: only the count changes
        rw [if_neg hold]
        refine ihks _ pend hsub' ⟨fun m => ?_, hreach⟩
        rw [indeg_congr G _ _ m B (fun p _ => (Vis_count c root s.node p).trans
          (or_iff_left_of_imp fun e => e ▸ .inr (Nat.pos_of_ne_zero hold)))]
        exact hacct m

theorem propagate_inv : ∀ (f n : Nat) (c : Cnt) (pend : Nat → Nat), n < f → Reach G root n → Vis c root n →
    PInv G root B c (fun m => pend m + edges (G.kids n) m) → PInv G root B (propagate G f n c) pend := by
  intro f
  induction f with
  | zero => exact fun n c pend h => absurd h (Nat.not_lt_zero _)
  | succ f ih =>
    intro n c pend hnf hR _ h
    show PInv G root B (propKids (propagate G f) (G.kids n) c) pend
    exact propKids_inv G root B hB wf f ih n (Nat.le_of_lt_succ hnf) hR (G.kids n) c pend (fun _ h => h) h

/-- **`propagate_consumers` from a clean start counts, for every node, the tracked edges into it
    from the nodes reachable from the root.** -/
theorem propagate_spec (fuel : Nat) (hf : root < fuel) (m : Nat) :
    (propagate G fuel root ⟨fun _ => 0⟩).get m = indeg G (Reach G root) m B := by
  have h0 : PInv G root B ⟨fun _ => 0⟩ (fun m => 0 + edges (G.kids root) m) := by
    refine ⟨fun m => ?_, fun m hm => absurd hm (Nat.lt_irrefl 0)⟩
    have hV : ∀ p, Vis ⟨fun _ => 0⟩ root p ↔ (False ∨ p = root) := fun p =>
      ⟨fun h => h.elim .inr fun h0 => absurd h0 (Nat.lt_irrefl 0), fun h => h.elim False.elim .inl⟩
    rw [indeg_congr G _ _ m B (fun p _ => hV p), indeg_insert G (fun _ => False) m root id B hB,
      indeg_zero G _ m B fun _ _ h => h.elim]
    exact Nat.zero_add _
  have hfin := propagate_inv G root B hB wf fuel root _ (fun _ => 0) hf Reach.root (Or.inl rfl) h0
  -- the visited set is exactly the reachable set
  have hsub : ∀ p, Vis (propagate G fuel root ⟨fun _ => 0⟩) root p → Reach G root p := by
    intro p hp
    rcases hp with rfl | hp
    · exact Reach.root
    · exact (hfin.reach p hp).1
  have hsup : ∀ p, Reach G root p → Vis (propagate G fuel root ⟨fun _ => 0⟩) root p := by
    intro p hp
    induction hp with
    | root => exact Or.inl rfl
    | step s hn hs ht ih =>
      have h3 : (propagate G fuel root ⟨fun _ => 0⟩).get s.node = indeg G (Vis _ root) s.node B := hfin.acct s.node
      exact .inr (h3 ▸ Nat.lt_of_lt_of_le (edges_pos hs ht) (indeg_ge G _ s.node _ ih B (Nat.lt_of_le_of_lt (hn.le wf) hB)))
  exact (hfin.acct m).trans (indeg_congr G _ _ m B fun p _ => ⟨hsub p, hsup p⟩)

end
end Corgi
