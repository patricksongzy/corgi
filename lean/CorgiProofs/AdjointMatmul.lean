/-
  The transposition identity behind `matmul`'s closures, on the summation kernel `sumRange` that `specMatmul` (and
  hence, by `linEntry_matmul_left/right`, the closed form of both stored closures) is built from:

      Σ_r Σ_j (Σ_t A r t · B t j) · X r j  =  Σ_r Σ_t A r t · (Σ_j B t j · X r j)      (δA = X · Bᵀ)
                                            =  Σ_t Σ_j B t j · (Σ_r A r t · X r j)      (δB = Aᵀ · X)

  for every size and every scalar type with the commutative-ring laws.  Every buffer involved is the row-major table
  `tab` of an entry function, and `dot` against a table is a double sum (`dot_tab`, `tab_dot`): that lifts the identity
  to buffers, and to `specMatmul` on two matrices under every pair of transposition flags.
-/
import CorgiProofs.Matmul
import CorgiProofs.Adjoint

set_option linter.unusedSectionVars false
set_option linter.unusedVariables false

namespace Corgi
variable {S : Type} [Add S] [Mul S] [Neg S] [Sub S] [ScalarOps S] [BEq S]
variable [AddLaws S] [MulLaws S] [CommLaws S]

theorem sumRange_comm (f : Nat → Nat → S) (n : Nat) : ∀ m : Nat,
    sumRange m (fun i => sumRange n (fun j => f i j)) = sumRange n (fun j => sumRange m (fun i => f i j))
  | 0 => by
    rw [sumRange_zero]
    exact (sumRange_const_zero n).symm
  | m + 1 => by
    rw [sumRange_succ, sumRange_comm f n m, ← sumRange_add]
    exact sumRange_ext (fun j => (sumRange_succ m (fun i => f i j)).symm)

theorem matmul_kernel_row (k n : Nat) (a : Nat → S) (B : Nat → Nat → S) (x : Nat → S) :
    sumRange n (fun j => sumRange k (fun t => a t * B t j) * x j)
      = sumRange k (fun t => a t * sumRange n (fun j => B t j * x j)) := by
  have h1 : ∀ j, sumRange k (fun t => a t * B t j) * x j = sumRange k (fun t => a t * (B t j * x j)) := by
    intro j
    rw [CommLaws.mul_comm (sumRange k (fun t => a t * B t j)) (x j), ← sumRange_smul]
    refine sumRange_ext (fun t => ?_)
    show x j * (a t * B t j) = a t * (B t j * x j)
    rw [CommLaws.mul_comm (x j) (a t * B t j), CommLaws.mul_assoc]
  rw [sumRange_ext h1, sumRange_comm (fun j t => a t * (B t j * x j)) k n]
  exact sumRange_ext (fun t => sumRange_smul (a t) n (fun j => B t j * x j))

/-- left operand: `⟨A·B, X⟩ = ⟨A, X·Bᵀ⟩` -/
theorem matmul_kernel_adjoint_left (m k n : Nat) (A B X : Nat → Nat → S) :
    sumRange m (fun r => sumRange n (fun j => sumRange k (fun t => A r t * B t j) * X r j))
      = sumRange m (fun r => sumRange k (fun t => A r t * sumRange n (fun j => B t j * X r j))) :=
  sumRange_ext (fun r => matmul_kernel_row k n (A r) B (X r))

/-- right operand: `⟨A·B, X⟩ = ⟨B, Aᵀ·X⟩` -/
theorem matmul_kernel_adjoint_right (m k n : Nat) (A B X : Nat → Nat → S) :
    sumRange m (fun r => sumRange n (fun j => sumRange k (fun t => A r t * B t j) * X r j))
      = sumRange k (fun t => sumRange n (fun j => B t j * sumRange m (fun r => A r t * X r j))) := by
  rw [matmul_kernel_adjoint_left, sumRange_comm (fun r t => A r t * sumRange n (fun j => B t j * X r j)) k m]
  refine sumRange_ext (fun t => ?_)
  have h2 : ∀ r, A r t * sumRange n (fun j => B t j * X r j) = sumRange n (fun j => B t j * (A r t * X r j)) := by
    intro r
    rw [← sumRange_smul]
    refine sumRange_ext (fun j => ?_)
    show A r t * (B t j * X r j) = B t j * (A r t * X r j)
    rw [← CommLaws.mul_assoc, CommLaws.mul_comm (A r t) (B t j), CommLaws.mul_assoc]
  rw [sumRange_ext h2, sumRange_comm (fun r j => B t j * (A r t * X r j)) n m]
  exact sumRange_ext (fun j => sumRange_smul (B t j) m (fun r => A r t * X r j))

theorem sumRange_mul_split (n : Nat) (f : Nat → S) : ∀ m : Nat,
    sumRange (m * n) f = sumRange m (fun r => sumRange n (fun j => f (r * n + j))) :=
  fun m => sumRange_nested m n f

theorem dot_eq_sumRange : ∀ (u v : List S), u.length = v.length →
    dot u v = sumRange u.length (fun i => u.getD i zero * v.getD i zero) := by
  intro u
  induction u with
  | nil => exact fun _ _ => rfl
  | cons a u ih =>
    intro v h
    cases v with
    | nil => cases h
    | cons b v =>
      rw [dot_cons, List.length_cons, sumRange_succ_front, ih v (Nat.succ.inj h)]
      rfl

/-- the row-major buffer of the `p×q` matrix with entries `F r c` -/
def tab (p q : Nat) (F : Nat → Nat → S) : List S := (List.range (p * q)).map (fun i => F (i / q) (i % q))

theorem length_tab (p q : Nat) (F : Nat → Nat → S) : (tab p q F).length = p * q :=
  (List.length_map _).trans List.length_range

theorem getD_tab (p q : Nat) (F : Nat → Nat → S) (r c : Nat) (hr : r < p) (hc : c < q) :
    (tab p q F).getD (r * q + c) zero = F r c := getD_map_range_block p q F r c hr hc

theorem dot_eq_sumRange2 (p q : Nat) (u v : List S) (hu : u.length = p * q) (hv : v.length = p * q) :
    dot u v = sumRange p (fun r => sumRange q (fun c => u.getD (r * q + c) zero * v.getD (r * q + c) zero)) := by
  rw [dot_eq_sumRange u v (hu.trans hv.symm), hu, sumRange_mul_split]

theorem dot_tab (p q : Nat) (F : Nat → Nat → S) (u : List S) (hu : u.length = p * q) :
    dot u (tab p q F) = sumRange p (fun r => sumRange q (fun c => u.getD (r * q + c) zero * F r c)) := by
  rw [dot_eq_sumRange2 p q u _ hu (length_tab p q F)]
  exact sumRange_congr p (fun r hr => sumRange_congr q (fun c hc => by rw [getD_tab p q F r c hr hc]))

/-- the table read column by column (a transposed operand) -/
theorem dot_tab_T (p q : Nat) (F : Nat → Nat → S) (u : List S) (hu : u.length = p * q) :
    dot u (tab p q F) = sumRange q (fun c => sumRange p (fun r => u.getD (r * q + c) zero * F r c)) :=
  (dot_tab p q F u hu).trans (sumRange_comm _ q p)

theorem tab_dot (p q : Nat) (F : Nat → Nat → S) (u : List S) (hu : u.length = p * q) :
    dot (tab p q F) u = sumRange p (fun r => sumRange q (fun c => F r c * u.getD (r * q + c) zero)) := by
  rw [dot_eq_sumRange2 p q _ u (length_tab p q F) hu]
  exact sumRange_congr p (fun r hr => sumRange_congr q (fun c hc => by rw [getD_tab p q F r c hr hc]))

theorem tab_mm_dot_left (m k n : Nat) (A B : Nat → Nat → S) (xv : List S) (hx : xv.length = m * n) :
    dot (tab m n (fun r j => sumRange k (fun t => A r t * B t j))) xv
      = sumRange m (fun r => sumRange k (fun t => A r t * sumRange n (fun j => B t j * xv.getD (r * n + j) zero))) :=
  (tab_dot m n _ xv hx).trans (matmul_kernel_adjoint_left m k n A B _)

theorem tab_mm_dot_right (m k n : Nat) (A B : Nat → Nat → S) (xv : List S) (hx : xv.length = m * n) :
    dot (tab m n (fun r j => sumRange k (fun t => A r t * B t j))) xv
      = sumRange k (fun t => sumRange n (fun j => B t j * sumRange m (fun r => A r t * xv.getD (r * n + j) zero))) :=
  (tab_dot m n _ xv hx).trans (matmul_kernel_adjoint_right m k n A B _)

/-! Product buffers in the layouts the code uses: each is a `tab`, each identity the kernel identity between `tab_dot`
    and `dot_tab`. -/

/-- the row-major buffer of the product of an `m×k` by a `k×n` buffer -/
def mmBuf (m k n : Nat) (av bv : List S) : List S :=
  (List.range (m * n)).map (fun i => sumRange k (fun t => av.getD (i / n * k + t) zero * bv.getD (t * n + i % n) zero))

/-- the row-major buffer of `X · Bᵀ` (`X : m×n`, `B : k×n`), the left closure's product -/
def mmBufT (m n k : Nat) (xv bv : List S) : List S :=
  (List.range (m * k)).map (fun i => sumRange n (fun j => bv.getD (i % k * n + j) zero * xv.getD (i / k * n + j) zero))

/-- the row-major buffer of `Aᵀ · X` (`A : m×k`, `X : m×n`), the right closure's product -/
def mmBufTL (k m n : Nat) (av xv : List S) : List S :=
  (List.range (k * n)).map (fun i => sumRange m (fun r => av.getD (r * k + i / n) zero * xv.getD (r * n + i % n) zero))

/-- the product buffer of an `m×k` row-major buffer with a second operand given entry-wise (`Bf t j`: whatever its
    layout / transposition flag) -/
def mmBufG (m k n : Nat) (av : List S) (Bf : Nat → Nat → S) : List S :=
  (List.range (m * n)).map (fun i => sumRange k (fun t => av.getD (i / n * k + t) zero * Bf t (i % n)))

/-- the left closure's product buffer for the same entry function -/
def mmBufTG (m n k : Nat) (xv : List S) (Bf : Nat → Nat → S) : List S :=
  (List.range (m * k)).map (fun i => sumRange n (fun j => Bf (i % k) j * xv.getD (i / k * n + j) zero))

/-- the buffer of `xᵀ · a` (`x : m×n`, `a : m×k`), in `[n,k]` layout: the right closure's product for `a · bᵀ` -/
def mmBufXtA (n m k : Nat) (xv av : List S) : List S :=
  (List.range (n * k)).map (fun i => sumRange m (fun r => av.getD (r * k + i % k) zero * xv.getD (r * n + i / k) zero))

/-- `⟨A·B, X⟩ = ⟨A, X·Bᵀ⟩`, second operand in any layout -/
theorem mmBufG_adjoint_left (m k n : Nat) (av xv : List S) (Bf : Nat → Nat → S) (ha : av.length = m * k) (hx : xv.length = m * n) :
    dot (mmBufG m k n av Bf) xv = dot av (mmBufTG m n k xv Bf) :=
  (tab_mm_dot_left m k n (fun r t => av.getD (r * k + t) zero) Bf xv hx).trans (dot_tab m k _ av ha).symm

theorem mmBuf_adjoint_left (m k n : Nat) (av bv xv : List S) (ha : av.length = m * k) (hx : xv.length = m * n) :
    dot (mmBuf m k n av bv) xv = dot av (mmBufT m n k xv bv) :=
  mmBufG_adjoint_left m k n av xv (fun t j => bv.getD (t * n + j) zero) ha hx

/-- `⟨A·B, X⟩ = ⟨B, Aᵀ·X⟩` -/
theorem mmBuf_adjoint_right (m k n : Nat) (av bv xv : List S) (hb : bv.length = k * n) (hx : xv.length = m * n) :
    dot (mmBuf m k n av bv) xv = dot bv (mmBufTL k m n av xv) :=
  (tab_mm_dot_right m k n (fun r t => av.getD (r * k + t) zero) (fun t j => bv.getD (t * n + j) zero) xv hx).trans
    (dot_tab k n (fun t j => sumRange m (fun r => av.getD (r * k + t) zero * xv.getD (r * n + j) zero)) bv hb).symm

/-- the right operand of `a · bᵀ` (`b : n×k` row-major): `⟨a·bᵀ, x⟩ = ⟨b, xᵀ·a⟩` -/
theorem mmBufG_adjoint_right_T (m k n : Nat) (av bv xv : List S) (hb : bv.length = n * k) (hx : xv.length = m * n) :
    dot (mmBufG m k n av (fun t j => bv.getD (j * k + t) zero)) xv = dot bv (mmBufXtA n m k xv av) :=
  (tab_mm_dot_right m k n (fun r t => av.getD (r * k + t) zero) (fun t j => bv.getD (j * k + t) zero) xv hx).trans
    (dot_tab_T n k (fun j t => sumRange m (fun r => av.getD (r * k + t) zero * xv.getD (r * n + j) zero)) bv hb).symm

/-- entry `(r, c)` of the matrix that a rank-2 buffer of row length `w` stands for under a transposition flag -/
def ent (v : List S) (w : Nat) (tr : Bool) (r c : Nat) : S := v.getD (if tr then c * w + r else r * w + c) zero

theorem get_ent (a : Tensor S) (a1 a2 : Nat) (ha : a.dims = [a1, a2]) (tr : Bool) (r c : Nat) :
    a.get (if tr then [c, r] else [r, c]) = ent a.vals a2 tr r c := by
  cases tr <;> exact congrArg (a.vals.getD · zero) ((congrArg (rowMajor · _) ha).trans (rowMajor2 ..))

theorem specMatmul_2d_vals (a b : Tensor S) (ta tb : Bool) (a1 a2 b1 b2 : Nat) (ha : a.dims = [a1, a2]) (hb : b.dims = [b1, b2]) :
    (specMatmul a ta b tb none).vals
      = tab (if ta then a2 else a1) (if tb then b1 else b2) (fun r j =>
          sumRange (if ta then a1 else a2) (fun t => ent a.vals a2 ta r t * ent b.vals b2 tb t j)) := by
  rw [specMatmul_snoc2 a b ta tb none [] [] a1 a2 b1 b2 ha hb]
  simp only [Tensor.ofFn, tab, ← get_ent a a1 a2 ha, ← get_ent b b1 b2 hb]
  simp [bdims_nil_left, prod_nil, prod2, unflatten_nil, unflatten_cons, prod_cons, proj_nil, cterm, AddLaws.zero_add]

theorem specMatmul_2d_vals' (a b : Tensor S) (ta tb : Bool) (a1 a2 b1 b2 : Nat) (ha : a.dims = [a1, a2]) (hb : b.dims = [b1, b2]) :
    (specMatmul a ta b tb none).vals
      = tab (if ta then a2 else a1) (if tb then b1 else b2) (fun r j =>
          sumRange (if ta then a1 else a2) (fun t => ent b.vals b2 tb t j * ent a.vals a2 ta r t)) := by
  rw [specMatmul_2d_vals a b ta tb a1 a2 b1 b2 ha hb]
  exact congrArg _ (funext fun r => funext fun j => sumRange_ext fun t => CommLaws.mul_comm _ _)

theorem Tensor.WF.len2 {a : Tensor S} (h : a.WF) {p q : Nat} (hd : a.dims = [p, q]) : a.vals.length = p * q := by
  rw [← h.2, hd, prod2]

/-- **`matmul` of two matrices, left operand, every pair of flags: the closure is the transpose of the forward
    map.**  The right-hand product is, word for word, the one `vjp (.matmul ta tb)` forms for operand 0.  In each
    case both sides are the kernel sum `Σ_r Σ_t A r t · Σ_j B t j · X r j`; a transposed `a` reads it column by
    column (`dot_tab_T`). -/
theorem matmul2d_closure_left (a b x : Tensor S) (ta tb : Bool) (m k n : Nat)
    (ha : a.dims = if ta then [k, m] else [m, k]) (hb : b.dims = if tb then [n, k] else [k, n]) (hx : x.dims = [m, n])
    (hwa : a.WF) (hwx : x.WF) :
    dot (specMatmul a ta b tb none).vals x.vals
      = dot a.vals (if ta then specMatmul b tb x true none else specMatmul x false b (!tb) none).vals := by
  have lx := hwx.len2 hx
  cases ta <;> cases tb
  · rw [specMatmul_2d_vals a b false false m k k n ha hb]
    exact (tab_mm_dot_left m k n _ _ x.vals lx).trans
      ((congrArg (dot a.vals) (specMatmul_2d_vals' x b false true m n k n hx hb)).trans (dot_tab m k _ a.vals (hwa.len2 ha))).symm
  · rw [specMatmul_2d_vals a b false true m k n k ha hb]
    exact (tab_mm_dot_left m k n _ _ x.vals lx).trans
      ((congrArg (dot a.vals) (specMatmul_2d_vals' x b false false m n n k hx hb)).trans (dot_tab m k _ a.vals (hwa.len2 ha))).symm
  · rw [specMatmul_2d_vals a b true false k m k n ha hb]
    exact (tab_mm_dot_left m k n _ _ x.vals lx).trans
      ((congrArg (dot a.vals) (specMatmul_2d_vals b x false true k n m n hb hx)).trans (dot_tab_T k m _ a.vals (hwa.len2 ha))).symm
  · rw [specMatmul_2d_vals a b true true k m n k ha hb]
    exact (tab_mm_dot_left m k n _ _ x.vals lx).trans
      ((congrArg (dot a.vals) (specMatmul_2d_vals b x true true n k m n hb hx)).trans (dot_tab_T k m _ a.vals (hwa.len2 ha))).symm

/-- **right operand**: the right-hand product is the one `vjp (.matmul ta tb)` forms for operand 1; both sides
    are `Σ_t Σ_j B t j · Σ_r A r t · X r j`. -/
theorem matmul2d_closure_right (a b x : Tensor S) (ta tb : Bool) (m k n : Nat)
    (ha : a.dims = if ta then [k, m] else [m, k]) (hb : b.dims = if tb then [n, k] else [k, n]) (hx : x.dims = [m, n])
    (hwb : b.WF) (hwx : x.WF) :
    dot (specMatmul a ta b tb none).vals x.vals
      = dot b.vals (if tb then specMatmul x true a ta none else specMatmul a (!ta) x false none).vals := by
  have lx := hwx.len2 hx
  cases ta <;> cases tb
  · rw [specMatmul_2d_vals a b false false m k k n ha hb]
    exact (tab_mm_dot_right m k n _ _ x.vals lx).trans
      ((congrArg (dot b.vals) (specMatmul_2d_vals a x true false m k m n ha hx)).trans (dot_tab k n _ b.vals (hwb.len2 hb))).symm
  · rw [specMatmul_2d_vals a b false true m k n k ha hb]
    exact (tab_mm_dot_right m k n _ _ x.vals lx).trans
      ((congrArg (dot b.vals) (specMatmul_2d_vals' x a true false m n m k hx ha)).trans (dot_tab_T n k _ b.vals (hwb.len2 hb))).symm
  · rw [specMatmul_2d_vals a b true false k m k n ha hb]
    exact (tab_mm_dot_right m k n _ _ x.vals lx).trans
      ((congrArg (dot b.vals) (specMatmul_2d_vals a x false false k m m n ha hx)).trans (dot_tab k n _ b.vals (hwb.len2 hb))).symm
  · rw [specMatmul_2d_vals a b true true k m n k ha hb]
    exact (tab_mm_dot_right m k n _ _ x.vals lx).trans
      ((congrArg (dot b.vals) (specMatmul_2d_vals' x a true true m n k m hx ha)).trans (dot_tab_T n k _ b.vals (hwb.len2 hb))).symm

end Corgi
