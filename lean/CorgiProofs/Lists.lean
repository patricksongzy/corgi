/-
  CorgiProofs.Lists — what the proofs need before any tensor appears: when the `R`-valued list helpers
  (`tabulateM`, `mapR`, `slice`, `getR`, `dimFromEnd`) succeed and with what, and buffers made of `K` blocks of `R`
  values, addressed at `k * R + r`.
-/
import CorgiProofs.Result

namespace Corgi

theorem idx2_lt (k K r R : Nat) (hk : k < K) (hr : r < R) : k * R + r < K * R :=
  calc k * R + r < k * R + R := Nat.add_lt_add_left hr _
    _ = (k + 1) * R := (Nat.succ_mul k R).symm
    _ ≤ K * R := Nat.mul_le_mul_right R hk

theorem div_lt_of_lt_mul_right (q R C : Nat) (h : q < R * C) : q / C < R :=
  Nat.div_lt_of_lt_mul (Nat.mul_comm R C ▸ h)

theorem dm (a n b : Nat) (hb : b < n) : (a * n + b) / n = a ∧ (a * n + b) % n = b := by
  have hn : 0 < n := Nat.zero_lt_of_lt hb
  constructor
  · rw [Nat.mul_comm, Nat.mul_add_div hn, Nat.div_eq_of_lt hb, Nat.add_zero]
  · rw [Nat.mul_comm, Nat.mul_add_mod, Nat.mod_eq_of_lt hb]

theorem tabulateM_succ {α} (f : Nat → R α) (n : Nat) :
    tabulateM f (n + 1) = tabulateM f n >>= fun xs => f n >>= fun x => pure (xs ++ [x]) := by rfl

theorem tabulateM_ok {α} (f : Nat → R α) (g : Nat → α) (n : Nat) (h : ∀ i, i < n → f i = .ok (g i)) :
    tabulateM f n = .ok ((List.range n).map g) := by
  induction n with
  | zero => rfl
  | succ n ih =>
    rw [tabulateM_succ, ih fun i hi => h i (Nat.lt_succ_of_lt hi), ok_bind, h n (Nat.lt_succ_self n), ok_bind,
      List.range_succ, List.map_append]
    rfl

theorem tabulateM_error {α} (f : Nat → R α) (n i : Nat) (hi : i < n) (p : Panic) (h : f i = .error p) :
    ∃ q, tabulateM f n = .error q := by
  induction n with
  | zero => exact absurd hi (Nat.not_lt_zero i)
  | succ n ih =>
    rw [tabulateM_succ]
    by_cases hin : i < n
    · obtain ⟨q, hq⟩ := ih hin
      exact ⟨q, by rw [hq]; rfl⟩
    · have : i = n := Nat.le_antisymm (Nat.le_of_lt_succ hi) (Nat.le_of_not_lt hin)
      subst this
      cases hx : tabulateM f i with
      | error q => exact ⟨q, rfl⟩
      | ok xs => exact ⟨p, by rw [ok_bind, h]; rfl⟩

theorem mapR_ok {α β} (f : α → R β) (g : α → β) (l : List α) (h : ∀ x ∈ l, f x = .ok (g x)) :
    mapR f l = .ok (l.map g) := by
  induction l with
  | nil => rfl
  | cons x xs ih =>
    show (f x >>= fun y => mapR f xs >>= fun ys => pure (y :: ys)) = _
    rw [h x List.mem_cons_self, ok_bind, ih fun y hy => h y (List.mem_cons_of_mem _ hy), ok_bind]
    rfl

theorem slice_ok {α} (v : List α) (off len : Nat) (h : off + len ≤ v.length) :
    slice v off len = .ok ((v.drop off).take len) := by
  simp [slice, h]

theorem getR_ok {α} (v : List α) (i : Nat) (x : α) (h : v[i]? = some x) : getR v i = .ok x := by
  simp [getR, h]

theorem dimFromEnd_append (L T : List Nat) (i : Nat) (hi : 0 < i) (h : i ≤ T.length) :
    dimFromEnd (L ++ T) i = .ok (T.getD (T.length - i) 0) := by
  have h1 : ¬ (i = 0 ∨ (L ++ T).length < i) := fun e => e.elim (Nat.ne_of_gt hi) fun e =>
    Nat.not_lt.mpr (Nat.le_trans h (Nat.le_add_left _ _)) (List.length_append ▸ e)
  have h3 : (L ++ T)[(L ++ T).length - i]? = some (T.getD (T.length - i) 0) := by
    rw [List.length_append, Nat.add_sub_assoc h, List.getElem?_append_right (Nat.le_add_right _ _),
      Nat.add_sub_cancel_left, List.getD_eq_getElem?_getD, List.getElem?_eq_getElem (Nat.sub_lt (Nat.lt_of_lt_of_le hi h) hi)]
    rfl
  unfold dimFromEnd getR
  rw [if_neg h1, h3]
  rfl

section
variable {S : Type}

theorem slice_getElem? (v : List S) (off len j : Nat) (sl : List S) (h : slice v off len = .ok sl) (hj : j < len) :
    sl[j]? = v[off + j]? := by
  unfold slice at h
  split at h
  · cases h; rw [List.getElem?_take_of_lt hj, List.getElem?_drop]
  · cases h

variable [ScalarOps S]

theorem getElem?_getD (l : List S) (i : Nat) (h : i < l.length) : l[i]? = some (l.getD i zero) := by
  rw [List.getD_eq_getElem?_getD, List.getElem?_eq_getElem h]; rfl

theorem getR_getD (v : List S) (i : Nat) (h : i < v.length) : getR v i = .ok (v.getD i zero) :=
  getR_ok v i _ (getElem?_getD v i h)

/-- beyond the end both sides read `zero`, hence `h0` -/
theorem getD_zipWith {op : S → S → S} (h0 : op zero zero = zero) (n : Nat) (u v : List S) (h : u.length = v.length) :
    (List.zipWith op u v).getD n zero = op (u.getD n zero) (v.getD n zero) := by
  induction u generalizing v n with
  | nil => cases v with
    | nil => exact h0.symm
    | cons _ _ => cases h
  | cons x u ih => cases v with
    | nil => cases h
    | cons y v => cases n with
      | zero => rfl
      | succ n => exact ih n v (Nat.succ.inj h)

theorem getD_map_range (n : Nat) (f : Nat → S) (i : Nat) (h : i < n) :
    ((List.range n).map f).getD i zero = f i := by
  simp [List.getD_eq_getElem?_getD, h]

theorem getD_map_range_block (P G : Nat) (F : Nat → Nat → S) (b q : Nat) (hb : b < P) (hq : q < G) :
    ((List.range (P * G)).map (fun p => F (p / G) (p % G))).getD (b * G + q) zero = F b q := by
  rw [getD_map_range _ _ _ (idx2_lt b P q G hb hq), (dm b G q hq).1, (dm b G q hq).2]

theorem getD_block (av : List S) (off len i : Nat) (hi : i < len) :
    ((av.drop off).take len).getD i zero = av.getD (off + i) zero := by
  simp only [List.getD_eq_getElem?_getD, List.getElem?_take_of_lt hi, List.getElem?_drop]

end

theorem map_range_getD {α} (l : List α) (d : α) : (List.range l.length).map (fun i => l.getD i d) = l :=
  List.ext_getElem (by rw [List.length_map, List.length_range]) fun i h _ => by
    rw [List.getElem_map, List.getElem_range, List.getD_eq_getElem?_getD, List.getElem?_eq_getElem
      (by rwa [List.length_map, List.length_range] at h), Option.getD_some]

theorem zipWith_map_range {α β γ} (op : α → β → γ) (f : Nat → α) (g : Nat → β) (L : Nat) :
    List.zipWith op ((List.range L).map f) ((List.range L).map g) = (List.range L).map (fun n => op (f n) (g n)) := by
  rw [List.zipWith_map, List.zipWith_self]

theorem zipWith_left {α β γ} (f : α → γ) (u : List α) (v : List β) (h : u.length = v.length) :
    List.zipWith (fun a _ => f a) u v = u.map f := by
  induction u generalizing v with
  | nil => rfl
  | cons a u ih =>
    cases v with
    | nil => cases h
    | cons _ v => exact congrArg (f a :: ·) (ih v (Nat.succ.inj h))

theorem getD_set {α} (l : List α) (i j : Nat) (a d : α) (hi : i < l.length) :
    (l.set i a).getD j d = if i = j then a else l.getD j d := by
  rw [List.getD_eq_getElem?_getD, List.getElem?_set, List.getD_eq_getElem?_getD]
  by_cases h : i = j
  · subst h; simp [hi]
  · simp [h]

theorem getElem?_flatten_const {α} {bs : List (List α)} {m : Nat} (h : ∀ b ∈ bs, b.length = m)
    (i r : Nat) (hr : r < m) : bs.flatten[i * m + r]? = (bs[i]?).bind (·[r]?) := by
  induction bs generalizing i with
  | nil => rfl
  | cons b bs ih =>
    obtain rfl : b.length = m := h b List.mem_cons_self
    cases i with
    | zero => rw [Nat.zero_mul, Nat.zero_add, List.flatten_cons, List.getElem?_append_left hr]; rfl
    | succ i =>
      rw [List.flatten_cons, Nat.succ_mul, Nat.add_right_comm, Nat.add_comm,
        List.getElem?_append_right (Nat.le_add_right _ _), Nat.add_sub_cancel_left]
      exact ih (fun x hx => h x (List.mem_cons_of_mem _ hx)) i

theorem length_flatten_const {α} {bs : List (List α)} {m : Nat} (h : ∀ b ∈ bs, b.length = m) :
    bs.flatten.length = bs.length * m := by
  induction bs with
  | nil => exact (Nat.zero_mul m).symm
  | cons b bs ih =>
    rw [List.flatten_cons, List.length_append, ih fun x hx => h x (List.mem_cons_of_mem _ hx), h b List.mem_cons_self,
      List.length_cons, Nat.succ_mul, Nat.add_comm]

theorem length_block {α} (l : List α) {n nB G : Nat} (hl : l.length = nB * G) (hn : n < nB) :
    ((l.drop (n * G)).take G).length = G :=
  List.length_take_of_le (by
    rw [List.length_drop, hl]
    exact Nat.le_sub_of_add_le (by rw [Nat.add_comm, ← Nat.succ_mul]; exact Nat.mul_le_mul_right G hn))

theorem flatten_map_singleton {α β} (f : α → β) (l : List α) : (l.map (fun x => [f x])).flatten = l.map f := by
  induction l <;> simp [*]

theorem flatten_range_blocks {α} (g : Nat → α) (n : Nat) :
    ∀ L, ((List.range L).map (fun q => (List.range n).map (fun i => g (q * n + i)))).flatten
      = (List.range (L * n)).map g := by
  intro L
  induction L with
  | zero => simp
  | succ L ih =>
    rw [List.range_succ, List.map_append, List.flatten_append, ih]
    simp only [List.map_cons, List.map_nil, List.flatten_cons, List.flatten_nil, List.append_nil]
    rw [Nat.succ_mul, List.range_add, List.map_append, List.map_map]
    rfl

theorem flatten_range_divmod {α} (g : Nat → Nat → α) (P m : Nat) :
    ((List.range P).map fun n => (List.range m).map (g n)).flatten
      = (List.range (P * m)).map fun p => g (p / m) (p % m) := by
  rw [← flatten_range_blocks _ m P]
  refine congrArg _ (List.map_congr_left fun n _ => List.map_congr_left fun o ho => ?_)
  rw [(dm n m o (List.mem_range.mp ho)).1, (dm n m o (List.mem_range.mp ho)).2]

theorem forall_mem2 {α} {p : α → Prop} {x y : α} (hx : p x) (hy : p y) : ∀ v ∈ [x, y], p v :=
  List.forall_mem_cons.mpr ⟨hx, List.forall_mem_cons.mpr ⟨hy, fun _ h => nomatch h⟩⟩

theorem forall_mem3 {α} {p : α → Prop} {x y z : α} (hx : p x) (hy : p y) (hz : p z) : ∀ v ∈ [x, y, z], p v :=
  List.forall_mem_cons.mpr ⟨hx, forall_mem2 hy hz⟩

theorem length_eq_two {α} {l : List α} (h : l.length = 2) : ∃ a b, l = [a, b] :=
  match l, h with
  | [a, b], _ => ⟨a, b, rfl⟩

theorem length_eq_three {α} {l : List α} (h : l.length = 3) : ∃ a b c, l = [a, b, c] :=
  match l, h with
  | [a, b, c], _ => ⟨a, b, c, rfl⟩

theorem split_last {α} (l : List α) (h : l ≠ []) : ∃ L x, l = L ++ [x] :=
  ⟨l.dropLast, l.getLast h, (List.dropLast_concat_getLast h).symm⟩

theorem snoc_induction {α} {P : List α → Prop} (nil : P []) (snoc : ∀ l a, P l → P (l ++ [a])) (l : List α) : P l := by
  rw [← l.reverse_reverse]
  induction l.reverse with
  | nil => exact nil
  | cons a r ih => rw [List.reverse_cons]; exact snoc _ _ ih

theorem list_rec₂ {α} {P : List α → List α → Prop} (nil_left : ∀ b, P [] b) (nil_right : ∀ a, P a [])
    (cons : ∀ x xs y ys, P xs ys → P (x :: xs) (y :: ys)) : ∀ a b, P a b := by
  intro a
  induction a with
  | nil => exact nil_left
  | cons x xs ih => intro b; cases b with
    | nil => exact nil_right _
    | cons y ys => exact cons x xs y ys (ih ys)

end Corgi
