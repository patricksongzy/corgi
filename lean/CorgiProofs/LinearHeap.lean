/-
  From the heap to `Sem`.  `Sem.ofLin` turns a graph all of whose closures are `VjpLin`/`VjpHom` into a `Sem` whose
  `Λ n i x` *is* the reduced `i`-th answer of node `n`'s closure on `x` (`contrib`): the path-sum theorem then speaks
  about the closures that are actually stored.  `TagShape` says which shapes a node's forward operation leaves its
  stored operands with; under it the node's closure is total, shape-correct and linear (`vjp_lin`).  So in a state
  whose recorded nodes satisfy it (`ShapeOK`) the recorded graph has the value laws (`State.sem`).
-/
import CorgiProofs.HeapStep
import CorgiProofs.PathSum
import CorgiProofs.LinearTags
import CorgiProofs.LinearSum
import CorgiProofs.LinearMatmul
import CorgiProofs.LinearConv

set_option linter.unusedSectionVars false
set_option linter.unusedVariables false

namespace Corgi
variable {S : Type} [Add S] [Mul S] [Neg S] [Sub S] [ScalarOps S] [BEq S]

/-- the reduced `i`-th answer of a closure, `⟨[], []⟩` where there is none -/
def contrib (cl : Option (Closure S)) (t : List Bool) (kd : List (List Nat)) (i : Nat) (x : Tensor S) : Tensor S :=
  match cl with
  | none => ⟨[], []⟩
  | some cl =>
    match cl t x with
    | .error _ => ⟨[], []⟩
    | .ok ds =>
      match ds[i]?, kd[i]? with
      | some (some d), some kdi =>
        match flattenTo d kdi with
        | .ok r => r
        | .error _ => ⟨[], []⟩
      | _, _ => ⟨[], []⟩

/-- what a graph must satisfy for its `Sem` to exist: every closure is `VjpLin` for the node's and the
    operands' dimensions, and nodes without a closure store no operands -/
structure LinGraph (G : Graph S) (dimsOf : Nat → List Nat) : Prop where
  slotDims : ∀ n s, s ∈ G.kids n → s.dims = dimsOf s.node
  dimsValid : ∀ n, dimsOf n ≠ [] ∧ ∀ d ∈ dimsOf n, 1 ≤ d
  noop : ∀ n, G.vjp n = none → G.kids n = []
  lawful : G.Lawful
  lin : ∀ n cl, G.vjp n = some cl →
    VjpLin cl ((G.kids n).map (·.tracked)) (dimsOf n) ((G.kids n).map (·.dims))
  hom : ∀ n cl, G.vjp n = some cl → ∀ α : S,
    VjpHom α cl ((G.kids n).map (·.tracked)) (dimsOf n) ((G.kids n).map (·.dims))

theorem tadd_nil : tadd (⟨[], []⟩ : Tensor S) ⟨[], []⟩ = ⟨[], []⟩ := rfl

theorem tsmul_nil (α : S) : tsmul α (⟨[], []⟩ : Tensor S) = ⟨[], []⟩ := rfl

theorem getElem?_map_of {α β} (f : α → β) {l : List α} {i : Nat} {a : α} (h : l[i]? = some a) :
    (l.map f)[i]? = some (f a) := by
  rw [List.getElem?_map, h]; rfl

omit [Neg S] [Sub S] in
theorem answer_of_flags {ds : List (Option (Tensor S))} {t : List Bool} (h : ds.map Option.isSome = t) {i : Nat} {b : Bool}
    (hi : t[i]? = some b) : ∃ o, ds[i]? = some o ∧ o.isSome = b := by
  rw [← h, List.getElem?_map] at hi
  exact Option.map_eq_some_iff.mp hi

omit [Neg S] [Sub S] in
theorem contrib_some {cl : Closure S} {t : List Bool} {kd : List (List Nat)} {i : Nat} {x d r : Tensor S}
    {ds : List (Option (Tensor S))} {kdi : List Nat} (h : cl t x = .ok ds) (hd : ds[i]? = some (some d))
    (hk : kd[i]? = some kdi) (hf : flattenTo d kdi = .ok r) : contrib (some cl) t kd i x = r := by
  simp only [contrib, h, hd, hk, hf]

omit [Neg S] [Sub S] in
theorem contrib_untracked {G : Graph S} {dimsOf : Nat → List Nat} (L : LinGraph G dimsOf) {n i : Nat} {cl : Closure S}
    {s : Slot} {x : Tensor S} {ds : List (Option (Tensor S))} (hv : G.vjp n = some cl) (hs : (G.kids n)[i]? = some s)
    (hf : s.tracked = false) (h : cl ((G.kids n).map (·.tracked)) x = .ok ds) :
    contrib (some cl) ((G.kids n).map (·.tracked)) ((G.kids n).map (·.dims)) i x = ⟨[], []⟩ := by
  obtain ⟨o, hd, ho⟩ := answer_of_flags (L.lawful n cl x ds hv h) (i := i) (b := false) (hf ▸ getElem?_map_of _ hs)
  cases o with
  | none => simp only [contrib, h, hd]
  | some _ => cases ho

omit [Neg S] [Sub S] in
theorem VjpLin.additive {cl : Closure S} {t : List Bool} {nd : List Nat} {kd : List (List Nat)} (h : VjpLin cl t nd kd)
    {i : Nat} {kdi : List Nat} (hi : t[i]? = some true) (hk : kd[i]? = some kdi) {x y : Tensor S} (hx : Shaped nd x)
    (hy : Shaped nd y) :
    contrib (some cl) t kd i (tadd x y) = tadd (contrib (some cl) t kd i x) (contrib (some cl) t kd i y) ∧
      Shaped kdi (contrib (some cl) t kd i x) := by
  obtain ⟨dx, dy, dz, h1, h2, h3, hall⟩ := h x y hx hy
  obtain ⟨kdi', d1, d2, d3, t1, t2, hk', e1, e2, e3, f1, f2, f3, s1, _⟩ := hall i hi
  cases hk'.symm.trans hk
  rw [contrib_some h1 e1 hk f1, contrib_some h2 e2 hk f2, contrib_some h3 e3 hk f3]
  exact ⟨rfl, s1⟩

/-- **The value laws hold of the stored closures.**  `Λ n i x` is the `i`-th answer of node `n`'s own
    closure on `x`, reduced to the operand's dimensions. -/
def Sem.ofLin {G : Graph S} {dimsOf : Nat → List Nat} (κ : Nat → Bool) (L : LinGraph G dimsOf) : Sem G where
  dimsOf := dimsOf
  Λ := fun n i x => contrib (G.vjp n) ((G.kids n).map (·.tracked)) ((G.kids n).map (·.dims)) i x
  κ := κ
  slotDims := L.slotDims
  dimsValid := L.dimsValid
  local_ := by
    intro n cl x ds hv hx hcl
    have hlaw := L.lawful n cl x ds hv hcl
    refine ⟨by simpa using congrArg List.length hlaw, fun i s hs => ?_⟩
    obtain ⟨o, hd, ho⟩ := answer_of_flags hlaw (i := i) (b := s.tracked) (getElem?_map_of _ hs)
    cases o with
    | none => exact ⟨fun _ => hd, fun ht => (by rw [ht] at ho; cases ho)⟩
    | some d =>
      refine ⟨fun ht => (by rw [ht] at ho; cases ho), fun _ => ⟨d, hd, fun r hr => ?_⟩⟩
      rw [hv]
      exact (contrib_some hcl hd (getElem?_map_of _ hs) hr).symm
  shapedΛ := by
    intro n i s x hs ht hx
    cases hv : G.vjp n with
    | none => rw [L.noop n hv] at hs; cases hs
    | some cl => exact ((L.lin n cl hv).additive (ht ▸ getElem?_map_of _ hs) (getElem?_map_of _ hs) hx hx).2
  additive := by
    intro n i s x y hs hx hy
    cases hv : G.vjp n with
    | none => rw [L.noop n hv] at hs; cases hs
    | some cl =>
      cases ht : s.tracked with
      | true => exact ((L.lin n cl hv).additive (ht ▸ getElem?_map_of _ hs) (getElem?_map_of _ hs) hx hy).1
      | false =>
        obtain ⟨_, _, _, h1, h2, h3, _⟩ := L.lin n cl hv x y hx hy
        rw [contrib_untracked L hv hs ht h1, contrib_untracked L hv hs ht h2, contrib_untracked L hv hs ht h3]
        rfl

theorem Sem.ofLin_smul {G : Graph S} {dimsOf : Nat → List Nat} (κ : Nat → Bool) (L : LinGraph G dimsOf) (α : S)
    (n i : Nat) (s : Slot) (x : Tensor S) (hs : (G.kids n)[i]? = some s) (hx : Shaped (dimsOf n) x) :
    (Sem.ofLin κ L).Λ n i (tsmul α x) = tsmul α ((Sem.ofLin κ L).Λ n i x) := by
  show contrib _ _ _ i (tsmul α x) = tsmul α (contrib _ _ _ i x)
  cases hv : G.vjp n with
  | none => rfl
  | some cl =>
    obtain ⟨dx, dz, h1, h3, hall⟩ := L.hom n cl hv α x hx
    cases ht : s.tracked with
    | true =>
      obtain ⟨kdi, d1, d3, t1, hk, e1, e3, f1, f3⟩ := hall i (ht ▸ getElem?_map_of _ hs)
      rw [contrib_some h1 e1 hk f1, contrib_some h3 e3 hk f3]
    | false =>
      rw [contrib_untracked L hv hs ht h1, contrib_untracked L hv hs ht h3]
      rfl

/-- the stored operands have the shapes the forward operation left them with -/
def TagShape (tag : OpTag S) (c : List (Tensor S)) (self : Tensor S) (nd : List Nat) : Prop :=
  match tag with
  | .add | .mul | .div => ∃ a b, c = [a, b] ∧ OperandOK a ∧ OperandOK b ∧ Compat a.dims b.dims = true ∧ nd = bdims a.dims b.dims
  | .neg | .scale _ | .powf _ | .ln | .recip | .relu | .custom 2 => ∃ a, c = [a] ∧ OperandOK a ∧ nd = a.dims
  | .exp | .sigmoid => ∃ a, c = [a] ∧ OperandOK a ∧ nd = a.dims ∧ self.vals.length = prod nd
  | .reshape => ∃ a, c = [a] ∧ OperandOK a ∧ DimsOK nd ∧ prod nd = prod a.dims
  | .sum k => ∃ a, c = [a] ∧ OperandOK a ∧ 1 ≤ k ∧ k ≤ a.dims.length ∧ nd = a.dims.take (a.dims.length - k) ++ [1]
  | .matmul ta tb => ∃ a b cc la lb a1 a2 b1 b2, c = [a, b, cc] ∧ a.dims = la ++ [a1, a2] ∧ b.dims = lb ++ [b1, b2] ∧
      a.WF ∧ b.WF ∧ Compat la lb = true ∧ (if ta then a1 else a2) = (if tb then b2 else b1) ∧
      (∀ d ∈ cc.dims, 1 ≤ d) ∧ Fits cc.dims nd = true ∧
      nd = bdims la lb ++ [if ta then a2 else a1, if tb then b1 else b2]
  | .unroll D R C sr sc fr fc => ∃ a B, c = [a] ∧ a.dims = B ++ [D, R, C] ∧ a.WF ∧ fr ≤ R ∧ fc ≤ C ∧ 1 ≤ fr ∧ 1 ≤ fc ∧
      1 ≤ sr ∧ 1 ≤ sc ∧ nd = B ++ [((R - fr) / sr + 1) * ((C - fc) / sc + 1), D * (fr * fc)]
  | .expand => ∃ a B w f rC cC, c = [a] ∧ a.dims = B ++ [w, f] ∧ a.WF ∧ rC * cC = w ∧ 1 ≤ rC ∧ 1 ≤ cC ∧
      nd = B ++ [f, rC, cC]
  | _ => False

section
variable [AddLaws S] [MulLaws S] [CommLaws S]

/-- **every built-in closure is total, shape-correct and linear** on the operands its forward operation stored -/
theorem vjp_lin (tag : OpTag S) (c : List (Tensor S)) (self : Tensor S) (t : List Bool) (nd : List Nat)
    (hs : TagShape tag c self nd) (ht : t.length = c.length) :
    VjpLinear (vjp tag c self) t nd (c.map (·.dims)) := by
  have unary : ∀ {tag : OpTag S}, (∃ a, c = [a] ∧ OperandOK a ∧ nd = a.dims) →
      (∀ a f0, OperandOK a → VjpLinear (vjp tag [a] self) [f0] a.dims [a.dims]) →
      VjpLinear (vjp tag c self) t nd (c.map (·.dims)) := by
    rintro tag ⟨a, rfl, ha, rfl⟩ h
    obtain ⟨f0, rfl⟩ := List.length_eq_one_iff.mp ht
    exact h a f0 ha
  cases tag with
  | add => obtain ⟨a, b, rfl, ha, hb, hc, rfl⟩ := hs; obtain ⟨f0, f1, rfl⟩ := length_eq_two ht; exact vjp_lin_add a b self f0 f1 ha hb hc
  | mul => obtain ⟨a, b, rfl, ha, hb, hc, rfl⟩ := hs; obtain ⟨f0, f1, rfl⟩ := length_eq_two ht; exact vjp_lin_mul a b self f0 f1 ha hb hc
  | div => obtain ⟨a, b, rfl, ha, hb, hc, rfl⟩ := hs; obtain ⟨f0, f1, rfl⟩ := length_eq_two ht; exact vjp_lin_div a b self f0 f1 ha hb hc
  | neg => exact unary hs fun a f0 ha => vjpLin_unary _ (fun x => rfl) (linEntry_scale (-one) _ ha.1.1)
  | scale s => exact unary hs fun a f0 ha => vjpLin_unary _ (fun x => rfl) (linEntry_scale s _ ha.1.1)
  | powf e =>
    exact unary hs fun a f0 ha => vjp_lin_constmul _ (scale (powf a (e - one)) e) a f0 ha
      (mapT_shaped _ _ (mapT_wf _ a ha.1)) (fun x => vjp_powf a [] self [f0] x e)
  | ln =>
    exact unary hs fun a f0 ha => vjpLin_unary (fun x => mul x (recip a)) (vjp_ln a [] self [f0])
      (linEntry_ewise_left (· * ·) (fun _ hop => hop.mul_right) (recip a) _ _ ⟨mapT_wf _ a ha.1, ha.2⟩ ha.dimsOK
        (Fits_refl _) ha.1.1 (Fits_refl _))
  | recip =>
    exact unary hs fun a f0 ha => vjp_lin_constmul _ (neg (powf (recip a) (one + one))) a f0 ha
      (mapT_shaped _ _ (mapT_wf _ _ (mapT_wf _ a ha.1))) (vjp_recip a [] self [f0])
  | relu =>
    exact unary hs fun a f0 ha => vjp_lin_constmul _ (mapT (fun v => if ScalarOps.pos v then one else zero) a) a f0 ha
      (mapT_shaped _ a ha.1) (vjp_relu a [] self [f0])
  | exp =>
    obtain ⟨a, rfl, ha, rfl, hl⟩ := hs; obtain ⟨f0, rfl⟩ := List.length_eq_one_iff.mp ht
    exact vjpLin_unary (fun x => Tensor.mk? a.dims (List.zipWith (fun k p => p * k) self.vals x.vals))
      (fun x => by rw [List.zipWith_comm]; exact vjp_exp a [] self [f0] x)
      (linEntry_zipWith _ (fun _ hop k p q => hop.mul_right p q k) _ _ ha.1.1 hl)
  | sigmoid =>
    obtain ⟨a, rfl, ha, rfl, hl⟩ := hs; obtain ⟨f0, rfl⟩ := List.length_eq_one_iff.mp ht
    exact vjpLin_unary (fun x => Tensor.mk? a.dims (mulValues (self.vals.map (fun v => v * (one - v))) x.vals))
      (vjp_sigmoid a [] self [f0])
      (linEntry_zipWith (· * ·) (fun _ hop => hop.mul_left) _ _ ha.1.1 (by simpa using hl))
  | reshape => obtain ⟨a, rfl, ha, hnd, hp⟩ := hs; obtain ⟨f0, rfl⟩ := List.length_eq_one_iff.mp ht; exact vjp_lin_reshape a self nd f0 ha hp
  | custom k =>
    match k, hs with
    | 2, hs =>
      exact unary hs fun a f0 ha => vjpLin_slots1 (fun x => rfl) (.whenT fun _ => linEntry_scale (one + one) _ ha.1.1)
  | sum k => obtain ⟨a, rfl, ha, hk, hkr, rfl⟩ := hs; obtain ⟨f0, rfl⟩ := List.length_eq_one_iff.mp ht; exact vjp_lin_sum k a self f0 ha
  | matmul ta tb =>
    obtain ⟨a, b, cc, la, lb, a1, a2, b1, b2, rfl, hda, hdb, hwa, hwb, hc, hin, hcc, hfc, rfl⟩ := hs
    obtain ⟨f0, f1, f2, rfl⟩ := length_eq_three ht
    exact vjp_lin_matmul ta tb a b cc self f0 f1 f2 la lb a1 a2 b1 b2 hda hdb hwa hwb hc hin hcc hfc
  | unroll D R C sr sc fr fc =>
    obtain ⟨a, B, rfl, hda, hwa, h1, h2, h3, h4, h5, h6, rfl⟩ := hs
    obtain ⟨f0, rfl⟩ := List.length_eq_one_iff.mp ht
    exact vjp_lin_unroll a self f0 B D R C sr sc fr fc hda hwa h1 h2 h3 h4 h5 h6
  | expand =>
    obtain ⟨a, B, w, f, rC, cC, rfl, hda, hwa, h1, h2, h3, rfl⟩ := hs
    obtain ⟨f0, rfl⟩ := List.length_eq_one_iff.mp ht
    exact vjp_lin_expand a self f0 B w f rC cC hda hwa h1

end

/-- the dimensions recorded for node `n` (`[1]` for ids that are not nodes) -/
def State.dimsOf (σ : State S) (n : Nat) : List Nat :=
  match σ.nodes[n]? with
  | some r => r.dims
  | none => [1]

/-- every recorded node has valid dimensions, its stored operand handles carry the dimensions of the
    nodes they name, and the operands have the shapes the node's forward operation produced it from -/
structure ShapeOK (σ : State S) : Prop where
  nodeDims : ∀ (n : Nat) (r : NodeRec S), σ.nodes[n]? = some r → DimsOK r.dims
  kidDims : ∀ (n : Nat) (r : NodeRec S), σ.nodes[n]? = some r → ∀ k ∈ r.kids,
    ∃ rk : NodeRec S, σ.nodes[k.node]? = some rk ∧ k.dims = rk.dims
  shapes : ∀ (n : Nat) (r : NodeRec S) (tag : OpTag S), σ.nodes[n]? = some r → r.op = some tag →
    TagShape tag (r.kids.map σ.tensorOf) ⟨[], σ.bufs.getD r.selfBuf []⟩ r.dims

theorem dimsOf_of {σ : State S} {n : Nat} {r : NodeRec S} (hn : σ.nodes[n]? = some r) : σ.dimsOf n = r.dims := by
  unfold State.dimsOf; rw [hn]

theorem dimsOf_none {σ : State S} {n : Nat} (hn : σ.nodes[n]? = none) : σ.dimsOf n = [1] := by
  unfold State.dimsOf; rw [hn]

theorem vjpLinear_of_shapeOK [AddLaws S] [MulLaws S] [CommLaws S] (σ : State S) (hs : ShapeOK σ) (n : Nat) (cl : Closure S)
    (hv : σ.graph.vjp n = some cl) :
    VjpLinear cl ((σ.graph.kids n).map (·.tracked)) (σ.dimsOf n) ((σ.graph.kids n).map (·.dims)) := by
  obtain ⟨r, tag, hn, hop, rfl⟩ := graph_vjp_some hv
  have h := vjp_lin tag (r.kids.map σ.tensorOf) ⟨[], σ.bufs.getD r.selfBuf []⟩ (r.kids.map (·.tracked))
    r.dims (hs.shapes n r tag hn hop) (by rw [List.length_map, List.length_map])
  -- a handle's slot and the tensor it names carry the handle's own flag and dimensions
  rw [List.map_map] at h
  rw [(graph_some hn).1, dimsOf_of hn, List.map_map, List.map_map]
  exact h

theorem linGraph_of_shapeOK [AddLaws S] [MulLaws S] [CommLaws S] (σ : State S) (hi : HeapInv σ) (hs : ShapeOK σ) :
    LinGraph σ.graph σ.dimsOf where
  slotDims := by
    intro n s hm
    match hn : σ.nodes[n]? with
    | none => rw [(graph_none hn).1] at hm; cases hm
    | some r =>
      rw [(graph_some hn).1] at hm
      obtain ⟨k, hk, rfl⟩ := List.mem_map.mp hm
      obtain ⟨rk, h1, h2⟩ := hs.kidDims n r hn k hk
      exact h2.trans (dimsOf_of h1).symm
  dimsValid := by
    intro n
    match hn : σ.nodes[n]? with
    | none => rw [dimsOf_none hn]; decide
    | some r => rw [dimsOf_of hn]; exact hs.nodeDims n r hn
  noop := by
    intro n hv
    match hn : σ.nodes[n]? with
    | none => exact (graph_none hn).1
    | some r =>
      rw [(graph_some hn).2] at hv
      rw [(graph_some hn).1, hi.noop n r hn (Option.map_eq_none_iff.mp hv)]; rfl
  lawful := graph_lawful σ hi
  lin := fun n cl hv => (vjpLinear_of_shapeOK σ hs n cl hv).1
  hom := fun n cl hv => (vjpLinear_of_shapeOK σ hs n cl hv).2

/-- the value laws of a shape-consistent heap: `Λ n i x` is the reduced `i`-th answer of node `n`'s
    stored closure on `x` -/
def State.sem [AddLaws S] [MulLaws S] [CommLaws S] (σ : State S) (κ : Nat → Bool) (hi : HeapInv σ) (hs : ShapeOK σ) : Sem σ.graph :=
  Sem.ofLin κ (linGraph_of_shapeOK σ hi hs)

theorem State.sem_Λ [AddLaws S] [MulLaws S] [CommLaws S] (σ : State S) (κ : Nat → Bool) (hi : HeapInv σ) (hs : ShapeOK σ)
    (n i : Nat) (x : Tensor S) :
    (σ.sem κ hi hs).Λ n i x
      = contrib (σ.graph.vjp n) ((σ.graph.kids n).map (·.tracked)) ((σ.graph.kids n).map (·.dims)) i x := by rfl

theorem State.sem_dimsOf [AddLaws S] [MulLaws S] [CommLaws S] (σ : State S) (κ : Nat → Bool) (hi : HeapInv σ) (hs : ShapeOK σ) :
    (σ.sem κ hi hs).dimsOf = σ.dimsOf := by rfl

theorem State.sem_smul [AddLaws S] [MulLaws S] [CommLaws S] (σ : State S) (κ : Nat → Bool) (hi : HeapInv σ) (hs : ShapeOK σ)
    (α : S) (n i : Nat) (s : Slot) (x : Tensor S) (hk : (σ.graph.kids n)[i]? = some s) (hx : Shaped (σ.dimsOf n) x) :
    (σ.sem κ hi hs).Λ n i (tsmul α x) = tsmul α ((σ.sem κ hi hs).Λ n i x) :=
  Sem.ofLin_smul κ (linGraph_of_shapeOK σ hi hs) α n i s x hk hx

end Corgi
