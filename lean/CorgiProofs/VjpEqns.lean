/-
  `vjp` on the constructors whose branch is more than a line, applied to operand and flag lists long enough for the
  closure to read what it needs: each right-hand side is the corresponding branch of `CorgiModel.Vjp.vjp` with the reads
  `kid c i`, `flag t i` carried out, and holds by evaluation.  Rewrite with these: putting `vjp` itself into a `simp`
  set makes Lean generate the equation lemmas of the whole 24-branch match again in every proof that does it, and
  unifying a closure against its branch by `rfl` where it is used pays the evaluation in the middle of a larger term
  (the one-line branches are cheap enough for that).  The proofs are `by rfl`: a term-mode `rfl` is elaborated a second
  time to see whether the theorem can serve `dsimp`.
-/
import CorgiModel.Vjp

namespace Corgi
variable {S : Type} [Add S] [Mul S] [Neg S] [Sub S] [ScalarOps S]

theorem whenT_ok {α} (r : α) : whenT true (.ok r : R α) = .ok (some r) := rfl

variable (a b : Tensor S) (l : List (Tensor S)) (self : Tensor S) (f0 f1 : Bool) (t : List Bool) (x : Tensor S)

theorem vjp_mul : vjp (.mul : OpTag S) (a :: b :: l) self (f0 :: f1 :: t) x =
    (whenT f0 (mul b x) >>= fun u => whenT f1 (mul a x) >>= fun v => .ok [u, v]) := by rfl

theorem vjp_div : vjp (.div : OpTag S) (a :: b :: l) self (f0 :: f1 :: t) x =
    (whenT f0 (div x b) >>= fun u =>
      whenT f1 (div (neg a) (powf b (one + one)) >>= fun q => mul q x) >>= fun v => .ok [u, v]) := by rfl

theorem vjp_powf (e : S) : vjp (.powf e) (a :: l) self t x =
    (mul (scale (powf a (e - one)) e) x >>= fun r => .ok [some r]) := by rfl

theorem vjp_ln : vjp (.ln : OpTag S) (a :: l) self t x = (mul x (recip a) >>= fun r => .ok [some r]) := by rfl

theorem vjp_exp : vjp (.exp : OpTag S) (a :: l) self t x =
    (Tensor.mk? a.dims (mulValues x.vals self.vals) >>= fun r => .ok [some r]) := by rfl

theorem vjp_recip : vjp (.recip : OpTag S) (a :: l) self t x =
    (mul (neg (powf (recip a) (one + one))) x >>= fun r => .ok [some r]) := by rfl

theorem vjp_relu : vjp (.relu : OpTag S) (a :: l) self t x =
    (mul (mapT (fun v => if ScalarOps.pos v then one else zero) a) x >>= fun r => .ok [some r]) := by rfl

theorem vjp_sigmoid : vjp (.sigmoid : OpTag S) (a :: l) self t x =
    (Tensor.mk? a.dims (mulValues (self.vals.map (fun v => v * (one - v))) x.vals) >>= fun r => .ok [some r]) := by rfl

theorem vjp_sum (k : Nat) : vjp (.sum k : OpTag S) (a :: l) self t x =
    (slicedOp [x] (sumBackOp (prod (a.dims.drop (x.dims.length - 1)))) x.dims a.dims 1 0 >>= fun r =>
      .ok [some r]) := by rfl

theorem vjp_matmul (ta tb f2 : Bool) :
    vjp (.matmul ta tb : OpTag S) (a :: b :: l) self (f0 :: f1 :: f2 :: t) x =
    (whenT f0 (if ta then matmul b tb x true none else matmul x false b (!tb) none) >>= fun u =>
      whenT f1 (if tb then matmul x true a ta none else matmul a (!ta) x false none) >>= fun v =>
      .ok (if f2 then some x else none) >>= fun w => .ok [u, v, w]) := by rfl

theorem vjp_expand : vjp (.expand : OpTag S) (a :: l) self t x =
    (expandConvBack x a.dims >>= fun r => .ok [some r]) := by rfl

end Corgi
