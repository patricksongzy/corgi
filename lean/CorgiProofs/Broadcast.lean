/-
  CorgiProofs.Broadcast — right-aligned dimension lists.  The code and the specification compare them from their
  reversed heads, so each fact is proved on the reversed lists (`compatRev`, `bdimsRev`, `fitsRev`; `list_rec₂`)
  and carried over.  `Fits a D` (not longer, every entry `1` or equal) is what `sliced_op` asks of an operand
  `a` under leading dimensions `D`: an in-range index of `D` then projects to an in-range index of `a`.
-/
import CorgiSpec.Ops
import CorgiProofs.Index

namespace Corgi

theorem compatRev_cons (x : Nat) (xs : List Nat) (y : Nat) (ys : List Nat) :
    compatRev (x :: xs) (y :: ys) = ((x == y || x == 1 || y == 1) && compatRev xs ys) := by rfl
theorem compatRev_nil_left (b : List Nat) : compatRev [] b = true := by rfl
theorem compatRev_nil_right (a : List Nat) : compatRev a [] = true := by cases a <;> rfl
theorem bdimsRev_cons (x : Nat) (xs : List Nat) (y : Nat) (ys : List Nat) :
    bdimsRev (x :: xs) (y :: ys) = max x y :: bdimsRev xs ys := by rfl
theorem bcastRev_cons (l : Nat) (ls : List Nat) (o : Nat) (os : List Nat) :
    bcastRev (l :: ls) (o :: os)
      = if l == o || l == 1 || o == 1 then bcastRev ls os >>= fun r => pure (max l o :: r) else throw .incompatible := by rfl

theorem bcastRev_spec : ∀ (l o : List Nat), o.length ≤ l.length →
    bcastRev l o = if compatRev l o then .ok (bdimsRev l o) else .error .incompatible :=
  list_rec₂ (fun o h => by cases o with
    | nil => rfl
    | cons _ _ => cases h) (fun l _ => by cases l <;> rfl) fun l ls o os ih h => by
    rw [bcastRev_cons, compatRev_cons, bdimsRev_cons, ih (Nat.le_of_succ_le_succ h)]
    cases (l == o || l == 1 || o == 1) <;> cases compatRev ls os <;> rfl

theorem compatRev_comm : ∀ (a b : List Nat), compatRev a b = compatRev b a :=
  list_rec₂ (fun b => by cases b <;> rfl) (fun a => by cases a <;> rfl) fun x xs y ys ih => by
    show ((x == y || x == 1 || y == 1) && compatRev xs ys) = ((y == x || y == 1 || x == 1) && compatRev ys xs)
    rw [ih, BEq.comm (a := x), Bool.or_right_comm]

theorem bdimsRev_comm : ∀ (a b : List Nat), bdimsRev a b = bdimsRev b a :=
  list_rec₂ (fun b => by cases b <;> rfl) (fun a => by cases a <;> rfl) fun x xs y ys ih => by
    rw [bdimsRev_cons, bdimsRev_cons, ih, Nat.max_comm]

theorem ewiseDims_spec (x y : List Nat) :
    ewiseDims x y = if Compat x y then .ok (bdims x y) else .error .incompatible := by
  unfold ewiseDims Compat bdims
  by_cases h : x.length > y.length
  · rw [if_pos h, bcastRev_spec _ _ (by rw [List.length_reverse, List.length_reverse]; exact Nat.le_of_lt h)]
    cases compatRev x.reverse y.reverse <;> rfl
  · rw [if_neg h, bcastRev_spec _ _ (by rw [List.length_reverse, List.length_reverse]; exact Nat.le_of_not_lt h),
      compatRev_comm, bdimsRev_comm]
    cases compatRev x.reverse y.reverse <;> rfl

theorem bdimsRev_pos : ∀ (a b : List Nat), (∀ d ∈ a, 1 ≤ d) → (∀ d ∈ b, 1 ≤ d) → ∀ d ∈ bdimsRev a b, 1 ≤ d :=
  list_rec₂ (fun b _ hb => by cases b <;> exact hb) (fun a ha _ => by cases a <;> exact ha) fun x xs y ys ih ha hb d hd => by
    rcases List.mem_cons.mp hd with rfl | hd
    · exact Nat.le_trans (ha x List.mem_cons_self) (Nat.le_max_left x y)
    · exact ih (fun d hd => ha d (List.mem_cons_of_mem _ hd)) (fun d hd => hb d (List.mem_cons_of_mem _ hd)) d hd

theorem bdims_pos (a b : List Nat) (ha : ∀ d ∈ a, 1 ≤ d) (hb : ∀ d ∈ b, 1 ≤ d) : ∀ d ∈ bdims a b, 1 ≤ d := by
  intro d hd
  simp only [bdims, List.mem_reverse] at hd
  exact bdimsRev_pos _ _ (fun d hd => ha d (List.mem_reverse.mp hd)) (fun d hd => hb d (List.mem_reverse.mp hd)) d hd

theorem bdimsRev_length : ∀ (a b : List Nat), (bdimsRev a b).length = max a.length b.length :=
  list_rec₂ (fun b => by cases b <;> exact (Nat.zero_max _).symm) (fun a => by cases a <;> exact (Nat.max_zero _).symm)
    fun x xs y ys ih => by
    show (bdimsRev xs ys).length + 1 = max (xs.length + 1) (ys.length + 1)
    rw [ih, Nat.succ_max_succ]

theorem bdims_length (a b : List Nat) : (bdims a b).length = max a.length b.length := by
  simp [bdims, bdimsRev_length]

theorem Compat_comm (a b : List Nat) : Compat a b = Compat b a := compatRev_comm _ _

theorem bdims_comm (a b : List Nat) : bdims a b = bdims b a := congrArg List.reverse (bdimsRev_comm _ _)

theorem bdims_ne_nil (a b : List Nat) (ha : a ≠ []) : bdims a b ≠ [] := fun e => by
  have h := bdims_length a b
  rw [e] at h
  exact ha (List.length_eq_zero_iff.mp (Nat.le_zero.mp (Nat.le_trans (Nat.le_max_left _ _) (Nat.le_of_eq h.symm))))

theorem Compat_nil_left (B : List Nat) : Compat [] B = true := compatRev_nil_left _

theorem Compat_nil_right (B : List Nat) : Compat B [] = true := compatRev_nil_right _

theorem bdims_nil_left (B : List Nat) : bdims [] B = B := by
  have : ∀ l : List Nat, bdimsRev [] l = l := fun l => by cases l <;> rfl
  simp [bdims, this]

theorem bdims_nil_right (B : List Nat) : bdims B [] = B := by
  have : ∀ l : List Nat, bdimsRev l [] = l := fun l => by cases l <;> rfl
  simp [bdims, this]

theorem projOffset_eq_proj (ad idx : List Nat) (h : ad.length ≤ idx.length) :
    projOffset ad idx = rowMajor ad (proj ad idx) := by
  unfold projOffset proj
  rw [horner_proj ad (idx.drop (idx.length - ad.length)) 0 (by rw [List.length_drop, Nat.sub_sub_self h]), Nat.zero_mul,
    Nat.zero_add]

theorem proj_length (ad idx : List Nat) (h : ad.length ≤ idx.length) : (proj ad idx).length = ad.length := by
  rw [proj, List.length_map, List.length_zip, List.length_drop, Nat.sub_sub_self h, Nat.min_self]

theorem proj_append_last (alead I : List Nat) (sl i : Nat) (h : alead.length ≤ I.length) :
    proj (alead ++ [sl]) (I ++ [i]) = proj alead I ++ [if sl == 1 then 0 else i] := by
  unfold proj
  have h1 : (I ++ [i]).length - (alead ++ [sl]).length = I.length - alead.length := by simp
  rw [h1, List.drop_append_of_le_length (Nat.sub_le _ _), List.zip_append (by rw [List.length_drop, Nat.sub_sub_self h])]
  simp

theorem proj_of_inRange {d idx : List Nat} (h : inRange d idx = true) : proj d idx = idx := by
  unfold proj
  rw [inRange_length h, Nat.sub_self, List.drop_zero]
  exact proj_self d idx h

theorem proj_unflatten {d : List Nat} {m : Nat} (hpos : ∀ x ∈ d, 1 ≤ x) (hm : m < prod d) :
    proj d (unflatten d m) = unflatten d m := proj_of_inRange (unflatten_inRange hpos hm)

theorem projOffset_full (lead idx : List Nat) (h : inRange lead idx = true) :
    projOffset lead idx = rowMajor lead idx := by
  rw [projOffset_eq_proj _ _ (Nat.le_of_eq (inRange_length h).symm), proj_of_inRange h]

theorem projOffset_unflatten {lead : List Nat} {n : Nat} (hpos : ∀ d ∈ lead, 1 ≤ d) (hn : n < prod lead) :
    projOffset lead (unflatten lead n) = n := by
  rw [projOffset_full _ _ (unflatten_inRange hpos hn), rowMajor_unflatten hn]

/-- `ad` fits `D`: not longer, and aligned from the last dimension every entry is `1` or equal -/
def fitsRev : List Nat → List Nat → Bool
  | [], _ => true
  | _ :: _, [] => false
  | d :: ds, e :: es => (d == 1 || d == e) && fitsRev ds es

def Fits (ad D : List Nat) : Bool := fitsRev ad.reverse D.reverse

theorem fitsRev_cons (d : Nat) (ds : List Nat) (e : Nat) (es : List Nat) :
    fitsRev (d :: ds) (e :: es) = ((d == 1 || d == e) && fitsRev ds es) := by rfl

theorem fitsRev_self (l : List Nat) : fitsRev l l = true := by
  induction l with
  | nil => rfl
  | cons x xs ih => rw [fitsRev_cons, ih, beq_self_eq_true, Bool.or_true]; rfl

theorem Fits_snoc (aL DL : List Nat) (s n : Nat) :
    Fits (aL ++ [s]) (DL ++ [n]) = ((s == 1 || s == n) && Fits aL DL) := by
  rw [Fits, Fits, List.reverse_append, List.reverse_append]; rfl

theorem Fits_refl (l : List Nat) : Fits l l = true := fitsRev_self _

theorem fitsRev_pos : ∀ (a D : List Nat), fitsRev a D = true → (∀ d ∈ D, 1 ≤ d) → ∀ d ∈ a, 1 ≤ d :=
  list_rec₂ (fun _ _ _ _ h => nomatch h) (fun a h => by cases a with
    | nil => exact fun _ _ h => nomatch h
    | cons _ _ => cases h) fun x xs e es ih h hD d hd => by
    rw [fitsRev_cons, Bool.and_eq_true, Bool.or_eq_true, beq_iff_eq, beq_iff_eq] at h
    rcases List.mem_cons.mp hd with rfl | hd
    · rcases h.1 with h1 | h1
      · exact Nat.le_of_eq h1.symm
      · exact h1 ▸ hD e List.mem_cons_self
    · exact ih h.2 (fun d hd => hD d (List.mem_cons_of_mem _ hd)) d hd

theorem Fits_pos {a D : List Nat} (h : Fits a D = true) (hD : ∀ d ∈ D, 1 ≤ d) : ∀ d ∈ a, 1 ≤ d := fun d hd =>
  fitsRev_pos _ _ h (fun d hd => hD d (List.mem_reverse.mp hd)) d (List.mem_reverse.mpr hd)

theorem fitsRev_bdims_left : ∀ (a b : List Nat), (∀ d ∈ a, 1 ≤ d) → compatRev a b = true →
    fitsRev a (bdimsRev a b) = true :=
  list_rec₂ (fun _ _ _ => rfl) (fun a _ _ => by cases a <;> exact fitsRev_self _) fun x xs y ys ih hpos h => by
    rw [compatRev_cons, Bool.and_eq_true, Bool.or_eq_true, Bool.or_eq_true, beq_iff_eq, beq_iff_eq, beq_iff_eq] at h
    rw [bdimsRev_cons, fitsRev_cons, ih (fun d hd => hpos d (List.mem_cons_of_mem _ hd)) h.2, Bool.and_true, Bool.or_eq_true,
      beq_iff_eq, beq_iff_eq]
    rcases h.1 with (h1 | h1) | h1
    · exact .inr (h1 ▸ (Nat.max_self x).symm)
    · exact .inl h1
    · exact .inr (h1 ▸ (Nat.max_eq_left (hpos x List.mem_cons_self)).symm)

theorem Fits_bdims_left (a b : List Nat) (hpos : ∀ d ∈ a, 1 ≤ d) (h : Compat a b = true) :
    Fits a (bdims a b) = true := by
  rw [Fits, bdims, List.reverse_reverse]
  exact fitsRev_bdims_left _ _ (fun d hd => hpos d (List.mem_reverse.mp hd)) h

theorem Fits_bdims_left' (a b : List Nat) (hpos : ∀ d ∈ a, 1 ≤ d) (h : Compat a b = true) : Fits a (bdims a b) = true :=
  Fits_bdims_left a b hpos h

theorem Fits_bdims_right (a b : List Nat) (hpos : ∀ d ∈ b, 1 ≤ d) (h : Compat a b = true) :
    Fits b (bdims a b) = true := by
  rw [bdims_comm]
  exact Fits_bdims_left b a hpos (Compat_comm a b ▸ h)

theorem fitsRev_absorb : ∀ (a D : List Nat), (∀ d ∈ D, 1 ≤ d) → fitsRev a D = true →
    compatRev a D = true ∧ bdimsRev a D = D :=
  list_rec₂ (fun D _ _ => by cases D <;> exact ⟨rfl, rfl⟩) (fun a _ h => by cases a with
    | nil => exact ⟨rfl, rfl⟩
    | cons _ _ => cases h) fun x xs y ys ih hD h => by
    rw [fitsRev_cons, Bool.and_eq_true, Bool.or_eq_true, beq_iff_eq, beq_iff_eq] at h
    obtain ⟨ih1, ih2⟩ := ih (fun d hd => hD d (List.mem_cons_of_mem _ hd)) h.2
    rw [compatRev_cons, bdimsRev_cons, ih1, ih2, Bool.and_true, Bool.or_eq_true, Bool.or_eq_true, beq_iff_eq, beq_iff_eq, beq_iff_eq]
    rcases h.1 with rfl | rfl
    · exact ⟨.inl (.inr rfl), by rw [Nat.max_eq_right (hD y List.mem_cons_self)]⟩
    · exact ⟨.inl (.inl rfl), by rw [Nat.max_self]⟩

theorem Fits_absorb {a D : List Nat} (hD : ∀ d ∈ D, 1 ≤ d) (h : Fits a D = true) :
    Compat a D = true ∧ bdims a D = D := by
  have := fitsRev_absorb a.reverse D.reverse (fun d hd => hD d (List.mem_reverse.mp hd)) h
  rw [Compat, bdims, this.1, this.2, List.reverse_reverse]
  exact ⟨rfl, rfl⟩

theorem Fits_absorb_left {a D : List Nat} (hD : ∀ d ∈ D, 1 ≤ d) (h : Fits a D = true) :
    Compat D a = true ∧ bdims D a = D :=
  Compat_comm a D ▸ bdims_comm a D ▸ Fits_absorb hD h

theorem fitsRev_append_same (t a D : List Nat) (h : fitsRev a D = true) : fitsRev (t ++ a) (t ++ D) = true := by
  induction t with
  | nil => exact h
  | cons x t ih => simpa only [List.cons_append, fitsRev_cons, beq_self_eq_true, Bool.or_true, Bool.true_and] using ih

theorem Fits_append_tail (a D t : List Nat) (h : Fits a D = true) : Fits (a ++ t) (D ++ t) = true := by
  simp only [Fits, List.reverse_append] at *
  exact fitsRev_append_same _ _ _ h

theorem fitsRev_length_le : ∀ (a D : List Nat), fitsRev a D = true → a.length ≤ D.length :=
  list_rec₂ (fun _ _ => Nat.zero_le _) (fun a h => by cases a with
    | nil => exact Nat.le_refl _
    | cons _ _ => cases h) fun _ _ _ _ ih h => Nat.succ_le_succ (ih (Bool.and_eq_true_iff.mp h).2)

theorem Fits_length_le {ad D : List Nat} (h : Fits ad D = true) : ad.length ≤ D.length := by
  simpa using fitsRev_length_le _ _ h

theorem fitsRev_zip_all : ∀ (x y : List Nat), fitsRev x y = true →
    (x.zip y).all (fun p => p.1 == 1 || p.1 == p.2) = true :=
  list_rec₂ (fun _ _ => rfl) (fun a h => by cases a with
    | nil => rfl
    | cons _ _ => cases h) fun d ds e es ih h => by
    rw [fitsRev_cons, Bool.and_eq_true] at h
    rw [List.zip_cons_cons, List.all_cons, h.1, ih h.2]; rfl

theorem proj_inRange_of_fits {ad : List Nat} : ∀ {D I : List Nat}, Fits ad D = true → inRange D I = true →
    inRange ad (proj ad I) = true := by
  induction ad using snoc_induction with
  | nil => exact fun _ _ => rfl
  | snoc aL s ih =>
    intro D I hf hI
    have hl := inRange_length hI
    obtain ⟨DL, n, rfl⟩ := split_last D fun e => by simpa [e] using Fits_length_le hf
    obtain ⟨IL, i, rfl⟩ := split_last I fun e => by simp [e] at hl
    have hIL : IL.length = DL.length := by simpa using hl
    rw [Fits_snoc, Bool.and_eq_true, Bool.or_eq_true, beq_iff_eq, beq_iff_eq] at hf
    rw [inRange_append_eq _ _ _ _ hIL, Bool.and_eq_true] at hI
    have hle : aL.length ≤ IL.length := hIL ▸ Fits_length_le hf.2
    rw [proj_append_last _ _ _ _ hle, inRange_append_eq _ _ _ _ (proj_length _ _ hle), ih hf.2 hI.1, Bool.true_and]
    have hi : i < n := by
      rw [inRange_cons, Bool.and_eq_true, decide_eq_true_eq] at hI; exact hI.2.1
    rcases hf.1 with rfl | rfl
    · rfl
    · rw [proj_lt s i hi]; exact inRange1 hi

end Corgi
