/-
  CorgiProofs.FlattenTo — `flatten_to` sums a delta over the broadcast positions of the operand (C03), for every
  delta shape and every operand shape that fits it.  The accumulation loop is followed on absolute positions of
  the delta: its result is then a filter over `List.range`, the form the specification has.
-/
import CorgiProofs.Broadcast

set_option linter.unusedSectionVars false
set_option linter.unusedVariables false

namespace Corgi
variable {S : Type} [Add S] [ScalarOps S]

/-- the loop entered at position `n` of `all` with `m` values to go: the form the induction needs -/
theorem flattenLoop_drop (src target : List Nat) (skip : Nat) (all : List S) (m : Nat) : ∀ (n : Nat) (acc : List S),
    n + m = all.length → (∀ k, k < all.length → flattenOffset target (unflatten src k) skip < acc.length) →
    flattenLoop src target skip (all.drop n) n acc = .ok ((List.range acc.length).map (fun q =>
      (((List.range' n m).filter (fun k => flattenOffset target (unflatten src k) skip == q)).map
        (fun k => all.getD k zero)).foldl (· + ·) (acc.getD q zero))) := by
  induction m with
  | zero =>
    intro n acc hn _
    rw [List.drop_eq_nil_of_le (Nat.le_of_eq hn.symm : all.length ≤ n)]
    exact congrArg Except.ok (map_range_getD acc zero).symm
  | succ m ih =>
    intro n acc hn hb
    have hlt : n < all.length := hn ▸ Nat.lt_add_of_pos_right (Nat.succ_pos m)
    have h0 := hb n hlt
    rw [List.drop_eq_getElem_cons hlt]
    show (addAt acc _ all[n] >>= fun a => flattenLoop src target skip (all.drop (n + 1)) (n + 1) a) = _
    rw [addAt, List.getElem?_eq_getElem h0]
    show flattenLoop src target skip (all.drop (n + 1)) (n + 1) _ = _
    rw [ih (n + 1) _ ((Nat.add_right_comm n 1 m).trans hn) (by rw [List.length_set]; exact hb), List.length_set]
    refine congrArg _ (List.map_congr_left fun q _ => ?_)
    rw [List.range'_succ, List.filter_cons, getD_set _ _ _ _ _ h0]
    by_cases h : flattenOffset target (unflatten src n) skip = q
    · subst h
      rw [if_pos rfl, if_pos (beq_self_eq_true _), List.map_cons, List.foldl_cons, List.getD_eq_getElem?_getD,
        List.getElem?_eq_getElem h0, List.getD_eq_getElem?_getD, List.getElem?_eq_getElem hlt]
      rfl
    · rw [if_neg h, if_neg fun e => h (eq_of_beq e)]

theorem flattenLoop_spec (src target : List Nat) (skip : Nat) (xs acc : List S)
    (hb : ∀ k, k < xs.length → flattenOffset target (unflatten src k) skip < acc.length) :
    flattenLoop src target skip xs 0 acc = .ok ((List.range acc.length).map (fun q =>
      (((List.range xs.length).filter (fun k => flattenOffset target (unflatten src k) skip == q)).map
        (fun k => xs.getD k zero)).foldl (· + ·) (acc.getD q zero))) := by
  rw [List.range_eq_range']
  exact flattenLoop_drop src target skip xs xs.length 0 acc (Nat.zero_add _) hb

end Corgi

namespace Corgi
variable {S : Type} [Add S] [Mul S] [Neg S] [Sub S] [ScalarOps S] [BEq S]

theorem flattenOffset_eq (src target : List Nat) (k : Nat) (hle : target.length ≤ src.length) :
    flattenOffset target (unflatten src k) (src.length - target.length)
      = rowMajor target (proj target (unflatten src k)) := by
  rw [← projOffset_eq_proj target (unflatten src k) (by rw [unflatten_length]; exact hle), flattenOffset, projOffset,
    unflatten_length]

/-- no positivity hypothesis on `target`: a shape that fits a well-formed one has positive dimensions, so the
    constructor accepts it -/
theorem flattenTo_eq_sumBroadcast (t : Tensor S) (target : List Nat) (hwf : t.WF) (hne : (t.dims == target) = false)
    (hfit : Fits target t.dims = true) : flattenTo t target = .ok (sumBroadcast t target) := by
  have hle := Fits_length_le hfit
  have hφ : ∀ k, flattenOffset target (unflatten t.dims k) (t.dims.length - target.length)
      = rowMajor target (proj target (unflatten t.dims k)) := fun k => flattenOffset_eq _ _ k hle
  simp only [flattenTo, hne, Bool.false_eq_true, if_false]
  rw [flattenLoop_spec t.dims target _ t.vals _ fun k hk => ?_]
  · rw [List.length_replicate, ok_bind, ← hwf.2]
    refine (Tensor.mk?_ok (Fits_pos hfit hwf.1) (by rw [List.length_map, List.length_range])).trans ?_
    refine congrArg (fun v => Except.ok (Tensor.mk target v)) (List.map_congr_left fun q hq => ?_)
    rw [List.getD_eq_getElem?_getD, List.getElem?_replicate, if_pos (List.mem_range.mp hq)]
    simp only [hφ]
    rfl
  · rw [List.length_replicate, hφ]
    exact rowMajor_lt (proj_inRange_of_fits hfit (unflatten_inRange hwf.1 (hwf.2 ▸ hk)))

theorem flattenTo_spec (t : Tensor S) (target : List Nat) (hwf : t.WF) (hne : (t.dims == target) = false)
    (hfit : Fits target t.dims = true) (hpos : ∀ d ∈ target, 1 ≤ d) :
    flattenTo t target = .ok (sumBroadcast t target) := flattenTo_eq_sumBroadcast t target hwf hne hfit

theorem flattenTo_eqdims (t : Tensor S) (target : List Nat) (h : (t.dims == target) = true) :
    flattenTo t target = .ok t := by
  simp [flattenTo, h]

end Corgi
