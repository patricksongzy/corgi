/-
  The result monad `R = Except Panic`.  It has no simp lemmas of its own: `pure`, `throw` and `>>=` reduce on
  `.ok`/`.error` by `rfl`, and the four equations below are what a proof uses instead of unfolding
  `bind, Except.bind, pure, Except.pure, …`.  Programs in `R` are specified by partial correctness (`Post`).
-/
import CorgiModel.Basic

namespace Corgi

@[simp] theorem ok_bind {α β} (a : α) (f : α → R β) : (Except.ok a >>= f) = f a := rfl
@[simp] theorem error_bind {α β} (e : Panic) (f : α → R β) : (Except.error e >>= f) = .error e := rfl
@[simp] theorem pure_eq_ok {α} (a : α) : (pure a : R α) = .ok a := rfl
@[simp] theorem throw_eq_error {α} (e : Panic) : (throw e : R α) = .error e := rfl

/-- nothing is said when `r` panics -/
def Post {α} (r : R α) (P : α → Prop) : Prop := ∀ a, r = .ok a → P a

namespace Post
variable {α β : Type} {P Q : α → Prop} {r : R α}

theorem pure {a : α} (h : P a) : Post (Pure.pure a) P := fun _ e => by cases e; exact h

theorem throw {p : Panic} : Post (throw p : R α) P := fun _ e => nomatch e

theorem bind {f : α → R β} {P : β → Prop} (h : ∀ a, r = .ok a → Post (f a) P) : Post (r >>= f) P := by
  intro b e
  cases r with
  | error x => cases e
  | ok a => exact h a rfl b e

/-- `let x ← pure a` -/
theorem let_pure {a : α} {f : α → R β} {P : β → Prop} (h : Post (f a) P) : Post (Pure.pure a >>= f) P := h

theorem mono (h : Post r P) (hPQ : ∀ a, P a → Q a) : Post r Q := fun a e => hPQ a (h a e)

theorem ite {c : Prop} [Decidable c] {a b : R α} (ha : Post a P) (hb : Post b P) :
    Post (if c then a else b) P := by split <;> assumption

end Post

theorem bindOk {α β} {r : R α} {f : α → R β} {v : β} (h : (r >>= f) = .ok v) : ∃ a, r = .ok a ∧ f a = .ok v := by
  cases r with
  | error e => cases h
  | ok a => exact ⟨a, rfl, h⟩

end Corgi
