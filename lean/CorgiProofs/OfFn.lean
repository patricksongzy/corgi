/-
  CorgiProofs.OfFn — tensors given by a function of the multi-index.  The specifications are `Tensor.ofFn`s; the
  code produces buffers block by block.  The two meet here, in both directions: a buffer read at row-major
  positions is the tensor of a function (`Tensor.eq_ofFn`, `Tensor.ext_get`), and the tensor of a function over
  `L ++ [m, n]` is the concatenation of its `m × n` blocks (`Tensor.ofFn_snoc2`).  First come the index lemmas for
  dimension lists that end in two or three named dimensions, as `matmul` and `conv` have them; last, the point-wise
  operations on tensors (`tadd`, `tsmul`, `tzip`, `mapT`): what they do to shapes, to `get` and to `Tensor.ofFn`.
-/
import CorgiProofs.Sliced

namespace Corgi

theorem dimFromEnd_snoc2_1 (l : List Nat) (p q : Nat) : dimFromEnd (l ++ [p, q]) 1 = .ok q :=
  dimFromEnd_append l [p, q] 1 (by simp) (by simp)
theorem dimFromEnd_snoc2_2 (l : List Nat) (p q : Nat) : dimFromEnd (l ++ [p, q]) 2 = .ok p :=
  dimFromEnd_append l [p, q] 2 (by simp) (by simp)
theorem dimFromEnd_snoc3_1 (l : List Nat) (p q r : Nat) : dimFromEnd (l ++ [p, q, r]) 1 = .ok r :=
  dimFromEnd_append l [p, q, r] 1 (by simp) (by simp)
theorem dimFromEnd_snoc3_2 (l : List Nat) (p q r : Nat) : dimFromEnd (l ++ [p, q, r]) 2 = .ok q :=
  dimFromEnd_append l [p, q, r] 2 (by simp) (by simp)
theorem dimFromEnd_snoc3_3 (l : List Nat) (p q r : Nat) : dimFromEnd (l ++ [p, q, r]) 3 = .ok p :=
  dimFromEnd_append l [p, q, r] 3 (by simp) (by simp)

theorem length_snoc2_sub (l : List Nat) (p q : Nat) : (l ++ [p, q]).length - 2 = l.length := by
  rw [List.length_append]; exact Nat.add_sub_cancel l.length 2
theorem length_snoc3_sub (l : List Nat) (p q r : Nat) : (l ++ [p, q, r]).length - 3 = l.length := by
  rw [List.length_append]; exact Nat.add_sub_cancel l.length 3

theorem take_snoc3 (l : List Nat) (p q r : Nat) : (l ++ [p, q, r]).take ((l ++ [p, q, r]).length - 3) = l :=
  List.take_left' (length_snoc3_sub l p q r).symm
theorem take_snoc2 (l : List Nat) (p q : Nat) : (l ++ [p, q]).take ((l ++ [p, q]).length - 2) = l :=
  List.take_left' (length_snoc2_sub l p q).symm
theorem drop_snoc2 (l : List Nat) (p q : Nat) : (l ++ [p, q]).drop ((l ++ [p, q]).length - 2) = [p, q] :=
  List.drop_left' (length_snoc2_sub l p q).symm

theorem pos_append2_iff {l : List Nat} {p q : Nat} :
    (∀ d ∈ l ++ [p, q], 1 ≤ d) ↔ (∀ d ∈ l, 1 ≤ d) ∧ 1 ≤ p ∧ 1 ≤ q := by
  simp only [List.forall_mem_append, List.forall_mem_cons, List.not_mem_nil, false_imp_iff, implies_true, and_true]

theorem pos_append3_iff {l : List Nat} {p q r : Nat} :
    (∀ d ∈ l ++ [p, q, r], 1 ≤ d) ↔ (∀ d ∈ l, 1 ≤ d) ∧ 1 ≤ p ∧ 1 ≤ q ∧ 1 ≤ r := by
  simp only [List.forall_mem_append, List.forall_mem_cons, List.not_mem_nil, false_imp_iff, implies_true, and_true]

theorem pos_append2 {l : List Nat} {p q : Nat} (hl : ∀ d ∈ l, 1 ≤ d) (hp : 1 ≤ p) (hq : 1 ≤ q) :
    ∀ d ∈ l ++ [p, q], 1 ≤ d := pos_append2_iff.mpr ⟨hl, hp, hq⟩

theorem pos_append3 {l : List Nat} {p q r : Nat} (hl : ∀ d ∈ l, 1 ≤ d) (hp : 1 ≤ p) (hq : 1 ≤ q) (hr : 1 ≤ r) :
    ∀ d ∈ l ++ [p, q, r], 1 ≤ d := pos_append3_iff.mpr ⟨hl, hp, hq, hr⟩

/-- a multi-index `I ++ J` whose first part has the length the specifications cut at -/
theorem getD_append_len (I J : List Nat) (n k : Nat) (h : I.length = n) : (I ++ J).getD (n + k) 0 = J.getD k 0 := by
  subst h
  rw [List.getD_eq_getElem?_getD, List.getElem?_append_right (Nat.le_add_right _ _), Nat.add_sub_cancel_left,
    ← List.getD_eq_getElem?_getD]
theorem getD_append_len0 (I J : List Nat) (n : Nat) (h : I.length = n) : (I ++ J).getD n 0 = J.getD 0 0 :=
  getD_append_len I J n 0 h

theorem inRange_append_inv (A T idx : List Nat) (h : inRange (A ++ T) idx = true) :
    ∃ I J, idx = I ++ J ∧ inRange A I = true ∧ inRange T J = true := by
  have hI : (idx.take A.length).length = A.length := by
    rw [List.length_take, inRange_length h, List.length_append]; exact Nat.min_eq_left (Nat.le_add_right _ _)
  rw [← List.take_append_drop A.length idx, inRange_append_eq _ _ _ _ hI, Bool.and_eq_true] at h
  exact ⟨_, _, (List.take_append_drop _ _).symm, h.1, h.2⟩

theorem inRange_snoc3_inv (A : List Nat) (a b c : Nat) (idx : List Nat) (h : inRange (A ++ [a, b, c]) idx = true) :
    ∃ I i j l, idx = I ++ [i, j, l] ∧ inRange A I = true ∧ i < a ∧ j < b ∧ l < c := by
  obtain ⟨I, J, rfl, hI, hJ⟩ := inRange_append_inv A [a, b, c] idx h
  rcases J with _ | ⟨i, _ | ⟨j, _ | ⟨l, _ | ⟨_, _⟩⟩⟩⟩ <;>
    simp [inRange_cons, inRange_nil, inRange_cons_nil, inRange_nil_cons] at hJ
  exact ⟨I, i, j, l, rfl, hI, hJ.1, hJ.2.1, hJ.2.2⟩

set_option linter.unusedVariables false in
theorem unflatten_out (lead : List Nat) (m n p : Nat) (hposL : ∀ d ∈ lead, 1 ≤ d) (hp : p < prod lead * (m * n)) :
    unflatten (lead ++ [m, n]) p = unflatten lead (p / (m * n)) ++ [p % (m * n) / n, p % (m * n) % n] :=
  unflatten_snoc2 lead m n p hp

theorem proj_nil (I : List Nat) : proj [] I = [] := by rfl

theorem proj_append2 (cl I : List Nat) (c1 c2 r j : Nat) (h : cl.length ≤ I.length) :
    proj (cl ++ [c1, c2]) (I ++ [r, j]) = proj cl I ++ [if c1 == 1 then 0 else r, if c2 == 1 then 0 else j] := by
  rw [List.append_cons cl, List.append_cons I, proj_append_last _ _ _ _ (by rw [List.length_append, List.length_append]; exact Nat.succ_le_succ h),
    proj_append_last _ _ _ _ h, List.append_assoc]
  rfl

variable {S : Type}

theorem tensor_eta (t : Tensor S) (d : List Nat) (h : t.dims = d) : t = ⟨d, t.vals⟩ := by
  cases t; simp only at h; subst h; rfl

theorem Tensor.ofFn_WF (D : List Nat) (f : List Nat → S) (hpos : ∀ d ∈ D, 1 ≤ d) : (Tensor.ofFn D f).WF :=
  ⟨hpos, by simp [Tensor.ofFn]⟩

theorem Tensor.ofFn_snoc2 (lead : List Nat) (m n : Nat) (f : List Nat → S) (hposL : ∀ d ∈ lead, 1 ≤ d) :
    Tensor.ofFn (lead ++ [m, n]) f
      = ⟨lead ++ [m, n], ((List.range (prod lead)).map fun nL => (List.range (m * n)).map fun q =>
          f (unflatten lead nL ++ [q / n, q % n])).flatten⟩ := by
  rw [flatten_range_divmod (fun nL q => f (unflatten lead nL ++ [q / n, q % n])), Tensor.ofFn, prod_append, prod2]
  exact congrArg _ (List.map_congr_left fun p hp => by rw [unflatten_out lead m n p hposL (List.mem_range.mp hp)])

variable [ScalarOps S]

theorem Tensor.eq_ofFn (D : List Nat) (vals : List S) (f : List Nat → S) (hpos : ∀ d ∈ D, 1 ≤ d)
    (hlen : vals.length = prod D)
    (h : ∀ idx, inRange D idx = true → vals.getD (rowMajor D idx) zero = f idx) :
    (⟨D, vals⟩ : Tensor S) = Tensor.ofFn D f := by
  unfold Tensor.ofFn
  congr 1
  apply List.ext_getElem (by simp [hlen])
  intro n h1 h2
  have hn : n < prod D := by rw [← hlen]; exact h1
  rw [List.getElem_map, List.getElem_range, ← h _ (unflatten_inRange hpos hn), rowMajor_unflatten hn,
    List.getD_eq_getElem?_getD, List.getElem?_eq_getElem h1]
  rfl

theorem Tensor.get_ofFn (D : List Nat) (f : List Nat → S) (idx : List Nat) (h : inRange D idx = true) :
    (Tensor.ofFn D f).get idx = f idx := by
  simp only [Tensor.get, Tensor.ofFn]
  rw [getD_map_range _ _ _ (rowMajor_lt h), unflatten_rowMajor h]

theorem Tensor.ext_get (t : Tensor S) (D : List Nat) (f : List Nat → S) (hw : t.WF) (hd : t.dims = D)
    (h : ∀ idx, inRange D idx = true → t.get idx = f idx) : t = Tensor.ofFn D f := by
  rw [tensor_eta t D hd]
  refine Tensor.eq_ofFn D t.vals f (by rw [← hd]; exact hw.1) (by rw [← hw.2, hd]) (fun idx hidx => ?_)
  rw [← h idx hidx, Tensor.get, hd]

/-- A buffer of `prod B` blocks, each gathered through `φ` from the corresponding block of `v` (as `unroll_blocks` and
    `expand_conv` build theirs): reading it at `I ++ J` reads `v` at `I ++ J'`, once `φ` takes the position of `J` to
    that of `J'`. -/
theorem Tensor.get_gather (B T T' I J J' : List Nat) (G G' : Nat) (v : List S) (φ : Nat → Nat)
    (hG : prod T = G) (hG' : prod T' = G') (hI : inRange B I = true) (hJ : inRange T J = true)
    (hφ : φ (rowMajor T J) = rowMajor T' J') :
    (⟨B ++ T, (List.range (prod B * G)).map fun p => v.getD (p / G * G' + φ (p % G)) zero⟩ : Tensor S).get (I ++ J)
      = (⟨B ++ T', v⟩ : Tensor S).get (I ++ J') := by
  have hIl := inRange_length hI
  subst hG hG'
  unfold Tensor.get
  rw [rowMajor_append _ _ _ _ hIl, rowMajor_append _ _ _ _ hIl,
    getD_map_range_block (prod B) _ (fun b q => v.getD (b * prod T' + φ q) zero) _ _ (rowMajor_lt hI) (rowMajor_lt hJ), hφ]

section pointwise
variable [Add S] [Mul S] {op : S → S → S}

theorem Shaped.tzip (op : S → S → S) {d : List Nat} {x y : Tensor S} (hx : Shaped d x) (hy : Shaped d y) :
    Shaped d (tzip op x y) := ⟨hx.1, List.length_zipWith.trans (by rw [hx.2, hy.2, Nat.min_self])⟩

theorem Shaped.wf {d : List Nat} {x : Tensor S} (h : Shaped d x) (hd : ∀ k ∈ d, 1 ≤ k) : x.WF :=
  ⟨by rw [h.1]; exact hd, by rw [h.1]; exact h.2.symm⟩

theorem tzip_smul (α : S) (x y : Tensor S) (h : x.vals.length = y.vals.length) :
    tzip (fun a _ => α * a) x y = tsmul α x := by
  simp only [tzip, tsmul, zipWith_left _ _ _ h]

theorem tzip_get (h0 : op zero zero = zero) (x y : Tensor S) (hd : x.dims = y.dims) (hl : x.vals.length = y.vals.length)
    (idx : List Nat) : (tzip op x y).get idx = op (x.get idx) (y.get idx) := by
  simp only [Tensor.get, ← hd]
  exact getD_zipWith h0 _ _ _ hl

theorem tzip_ofFn (op : S → S → S) (D : List Nat) (F G : List Nat → S) :
    tzip op (Tensor.ofFn D F) (Tensor.ofFn D G) = Tensor.ofFn D (fun idx => op (F idx) (G idx)) := by
  simp only [tzip, Tensor.ofFn, zipWith_map_range]

theorem mapT_op (op : S → S → S) (φ : S → S) (hφ : ∀ p q, φ (op p q) = op (φ p) (φ q)) (x y : Tensor S) :
    mapT φ (tzip op x y) = tzip op (mapT φ x) (mapT φ y) := by
  simp only [mapT, tzip, List.map_zipWith, List.zipWith_map, hφ]

theorem mapT_wf (φ : S → S) (a : Tensor S) (h : a.WF) : (mapT φ a).WF :=
  ⟨h.1, h.2.trans (List.length_map φ).symm⟩

theorem shaped_map (d : List Nat) (a : Tensor S) (f : S → S) (ha : Shaped d a) : Shaped d (mapT f a) :=
  ⟨ha.1, (List.length_map _).trans ha.2⟩

theorem mapT_mapT (f g : S → S) (a : Tensor S) : mapT f (mapT g a) = mapT (fun y => f (g y)) a := by
  simp [mapT, Function.comp_def]

theorem mapT_id (a : Tensor S) : mapT (fun v => v) a = a := by simp [mapT]

theorem zipWith_congr_fun {f g : S → S → S} (h : ∀ x y, f x y = g x y) (a b : List S) :
    List.zipWith f a b = List.zipWith g a b := by
  rw [funext fun x => funext (h x)]

theorem mapT_congr {f g : S → S} (h : ∀ y, f y = g y) (a : Tensor S) : mapT f a = mapT g a := by
  rw [funext h]

end pointwise

end Corgi
