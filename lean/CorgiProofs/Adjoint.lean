/-
  The closure of a linear operation is the *transpose* of the forward map: `⟨F a, x⟩ = ⟨a, Fᵀ x⟩` for every operand
  `a` and every delta `x`, with `⟨u, v⟩` (`dot`) the sum of the element products.  (For a linear map the Jacobian is
  the map itself, so this is "the closure applies the transposed Jacobian to the delta", C02.)  Here: `sum(k)`,
  whose forward map is the block sum and whose closure repeats each delta element over its block.
-/
import CorgiProofs.Sums

set_option linter.unusedSectionVars false
set_option linter.unusedVariables false

namespace Corgi
variable {S : Type} [Add S] [Mul S] [Neg S] [Sub S] [ScalarOps S] [BEq S]

/-- `⟨u, v⟩ = Σ uᵢ vᵢ` -/
def dot (u v : List S) : S := sumList (List.zipWith (· * ·) u v)

def blockSums (g : Nat) : Nat → List S → List S
  | 0, _ => []
  | P + 1, v => sumList (v.take g) :: blockSums g P (v.drop g)

theorem blockSums_succ (g P : Nat) (v : List S) :
    blockSums g (P + 1) v = sumList (v.take g) :: blockSums g P (v.drop g) := by rfl

theorem blockSums_eq (g P : Nat) (v : List S) :
    blockSums g P v = (List.range P).map (fun q => sumList ((v.drop (q * g)).take g)) := by
  induction P generalizing v with
  | zero => rfl
  | succ P ih =>
    rw [blockSums_succ, ih (v.drop g), List.range_succ_eq_map, List.map_cons, List.map_map, Nat.zero_mul, List.drop_zero]
    refine congrArg _ (List.map_congr_left fun q _ => ?_)
    show sumList (((v.drop g).drop (q * g)).take g) = sumList ((v.drop ((q + 1) * g)).take g)
    rw [List.drop_drop, Nat.succ_mul, Nat.add_comm g]

section
variable [AddLaws S] [MulLaws S] [CommLaws S]

theorem dot_nil_left (v : List S) : dot [] v = zero := rfl

theorem dot_cons (a b : S) (u v : List S) : dot (a :: u) (b :: v) = a * b + dot u v := by
  simp only [dot, List.zipWith_cons_cons, sumList_cons]

theorem dot_append (u1 u2 v1 v2 : List S) (h : u1.length = v1.length) :
    dot (u1 ++ u2) (v1 ++ v2) = dot u1 v1 + dot u2 v2 := by
  simp only [dot]
  rw [List.zipWith_append h, sumList_append]

theorem dot_replicate (x : S) (b : List S) : dot b (List.replicate b.length x) = sumList b * x := by
  induction b with
  | nil => exact ((CommLaws.mul_comm zero x).trans (CommLaws.mul_zero x)).symm
  | cons a b ih =>
    rw [List.length_cons, List.replicate_succ, dot_cons, ih, sumList_cons, MulLaws.right_distrib]

/-- **`sum(k)`'s closure is the transpose of the block sum**: for a buffer of `P` blocks of length `g` and a
    delta with one element per block, `⟨block sums of a, x⟩ = ⟨a, x repeated over the blocks⟩` -/
theorem blockSums_adjoint (g : Nat) : ∀ (P : Nat) (av xv : List S), av.length = P * g → xv.length = P →
    dot (blockSums g P av) xv = dot av (xv.flatMap (List.replicate g)) := by
  intro P
  induction P with
  | zero =>
    intro av xv ha hx
    cases List.length_eq_zero_iff.mp (ha.trans (Nat.zero_mul g))
    cases List.length_eq_zero_iff.mp hx
    rfl
  | succ P ih =>
    intro av xv ha hx
    cases xv with
    | nil => cases hx
    | cons x xs =>
      rw [Nat.succ_mul] at ha
      have htl : (av.take g).length = g := List.length_take_of_le (ha ▸ Nat.le_add_left _ _)
      rw [blockSums_succ, dot_cons, List.flatMap_cons]
      conv => rhs; rw [← List.take_append_drop g av]
      rw [dot_append _ _ _ _ (htl.trans List.length_replicate.symm),
        ih (av.drop g) xs (by rw [List.length_drop, ha, Nat.add_sub_cancel]) (Nat.succ.inj hx)]
      exact congrArg (· + _) (htl ▸ dot_replicate x (av.take g)).symm

end

theorem specSum_vals (a : Tensor S) (k : Nat) (hk : k ≠ 0) :
    (specSum a k).vals = blockSums (prod (a.dims.drop (a.dims.length - k))) (prod (a.dims.take (a.dims.length - k))) a.vals := by
  simp only [specSum, hk, if_false]
  rw [blockSums_eq]

end Corgi
