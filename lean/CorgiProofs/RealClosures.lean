/-
  The real numbers as scalars of the model (`exp`, `ln` and real power from Mathlib), so that the tangent rules of
  `CorgiSpec.Dual` and the closures can be compared with `HasDerivAt` (C02).  Over ℝ, on operands of one shape, the
  closure of a point-wise operation multiplies the delta, element by element, by a factor computed from the operand:
  `diag D`, the transpose of a diagonal Jacobian.  `Vjp.vjp` writes that product in four ways (the factor `mapT D c` on
  either side of `mul`, or in either argument of `Tensor.mk? _ (mulValues _ _)`); the lemmas here bring each to `diag D`,
  and C02 applies them operation by operation with `D` the `HasDerivAt` derivative of the forward function.
-/
import CorgiProofs.Pointwise
import CorgiProofs.OfFn
import CorgiProofs.Sums
import CorgiProofs.VjpEqns
import CorgiSpec.Dual
import Mathlib.Analysis.SpecialFunctions.ExpDeriv
import Mathlib.Analysis.SpecialFunctions.Log.Deriv
import Mathlib.Analysis.SpecialFunctions.Pow.Deriv

set_option linter.unusedSectionVars false
set_option linter.unusedVariables false

namespace Corgi
open Real

/-- the real numbers as scalars: `exp`, `ln`, real power -/
noncomputable instance : ScalarOps ℝ where
  zero := 0
  one := 1
  ofNat n := (n : ℝ)
  div a b := a / b
  exp := Real.exp
  ln := Real.log
  powf x e := x ^ e
  pos x := decide (0 < x)

noncomputable instance : BEq ℝ := ⟨fun a b => decide (a = b)⟩

/-- the delta times a per-element derivative -/
noncomputable def diag (D : ℝ → ℝ) (d : List Nat) (x c : Tensor ℝ) : Tensor ℝ :=
  ⟨d, List.zipWith (fun xj cj => xj * D cj) x.vals c.vals⟩

theorem mul_same (d : List Nat) (hne : d ≠ []) (hpos : ∀ k ∈ d, 1 ≤ k) (a b : Tensor ℝ)
    (ha : Shaped d a) (hb : Shaped d b) : mul a b = .ok ⟨d, List.zipWith (· * ·) a.vals b.vals⟩ := by
  rw [mul, ewise_same _ d hne hpos a b ha hb, tzip, ha.1]

theorem div_same (d : List Nat) (hne : d ≠ []) (hpos : ∀ k ∈ d, 1 ≤ k) (a b : Tensor ℝ)
    (ha : Shaped d a) (hb : Shaped d b) : div a b = .ok ⟨d, List.zipWith (· / ·) a.vals b.vals⟩ := by
  rw [div, ewise_same _ d hne hpos a b ha hb, tzip, ha.1]; rfl

section closures
variable (d : List Nat) (c x self : Tensor ℝ)

theorem diag_left (D : ℝ → ℝ) : (⟨d, List.zipWith (· * ·) (c.vals.map D) x.vals⟩ : Tensor ℝ) = diag D d x c := by
  rw [diag, List.zipWith_map_left, List.zipWith_comm]
  exact congrArg (Tensor.mk d) (zipWith_congr_fun (fun xj cj => mul_comm _ _) _ _)

theorem diag_right (D : ℝ → ℝ) : (⟨d, List.zipWith (· * ·) x.vals (c.vals.map D)⟩ : Tensor ℝ) = diag D d x c := by
  rw [diag, List.zipWith_map_right]

theorem mul_mapT_left (D : ℝ → ℝ) (hne : d ≠ []) (hpos : ∀ k ∈ d, 1 ≤ k) (hc : Shaped d c) (hx : Shaped d x) :
    mul (mapT D c) x = .ok (diag D d x c) :=
  (mul_same d hne hpos _ x (shaped_map d c D hc) hx).trans (congrArg Except.ok (diag_left d c x D))

theorem mul_mapT_right (D : ℝ → ℝ) (hne : d ≠ []) (hpos : ∀ k ∈ d, 1 ≤ k) (hc : Shaped d c) (hx : Shaped d x) :
    mul x (mapT D c) = .ok (diag D d x c) :=
  (mul_same d hne hpos x _ hx (shaped_map d c D hc)).trans (congrArg Except.ok (diag_right d c x D))

theorem mk?_mulValues (l r : List ℝ) (hpos : ∀ k ∈ d, 1 ≤ k) (hc : Shaped d c) (hl : l.length = prod d) (hr : r.length = prod d) :
    Tensor.mk? c.dims (mulValues l r) = .ok ⟨d, List.zipWith (· * ·) l r⟩ := by
  rw [hc.1]; exact Tensor.mk?_ok hpos (by rw [mulValues, List.length_zipWith, hl, hr, Nat.min_self])

theorem scale_diag (s : ℝ) (hc : Shaped d c) (hx : Shaped d x) : scale x s = diag (fun _ => s) d x c := by
  rw [scale, mapT, diag, hx.1, zipWith_left _ x.vals c.vals (hx.2.trans hc.2.symm)]

/-- `neg`: derivative −1 -/
theorem closure_neg (hc : Shaped d c) (hx : Shaped d x) :
    vjp (.neg : OpTag ℝ) [c] self [true] x = .ok [some (diag (fun _ => -1) d x c)] ∧
    ∀ y : ℝ, HasDerivAt (fun y => -y) (-1) y :=
  ⟨congrArg (fun r => Except.ok [some r]) (scale_diag d c x (-1) hc hx), fun y => (hasDerivAt_id y).neg⟩

/-- `div`: `∂(u/v)/∂u = 1/v`, `∂(u/v)/∂v = −u/v²` (at `v ≠ 0`) -/
theorem closure_div (a b : Tensor ℝ) (hne : d ≠ []) (hpos : ∀ k ∈ d, 1 ≤ k) (ha : Shaped d a) (hb : Shaped d b)
    (hx : Shaped d x) :
    vjp (.div : OpTag ℝ) [a, b] self [true, true] x
      = .ok [some (diag (fun v => 1 / v) d x b),
             some ⟨d, List.zipWith (· * ·) (List.zipWith (fun u v => -u / v ^ (2 : ℝ)) a.vals b.vals) x.vals⟩] ∧
    ∀ u v : ℝ, v ≠ 0 → HasDerivAt (fun u => u / v) (1 / v) u ∧ HasDerivAt (fun v => u / v) (-u / v ^ (2 : ℝ)) v := by
  refine ⟨?_, fun u v hv => ⟨(hasDerivAt_id' u).div_const v, ?_⟩⟩
  · have h1 : div x b = .ok (diag (fun v => 1 / v) d x b) :=
      (div_same d hne hpos x b hx hb).trans
        (congrArg (fun l => Except.ok (Tensor.mk d l)) (zipWith_congr_fun (fun xj cj => div_eq_mul_one_div xj cj) _ _))
    have hq : div (neg a) (powf b (one + one))
        = .ok ⟨d, List.zipWith (fun u v => -u / v ^ (2 : ℝ)) a.vals b.vals⟩ := by
      rw [div_same d hne hpos (neg a) (powf b (one + one)) (shaped_map d a _ ha) (shaped_map d b _ hb)]
      refine congrArg (fun l => Except.ok (Tensor.mk d l))
        ((List.zipWith_map ..).trans (zipWith_congr_fun (fun u v => ?_) _ _))
      show u * -1 / v ^ ((1 : ℝ) + 1) = _
      rw [one_add_one_eq_two, mul_neg_one]
    have h2 := mul_same d hne hpos ⟨d, List.zipWith (fun u v => -u / v ^ (2 : ℝ)) a.vals b.vals⟩ x
      ⟨rfl, by rw [List.length_zipWith, ha.2, hb.2, Nat.min_self]⟩ hx
    simp only [vjp_div, whenT_ok, ok_bind, h1, hq, h2]
  · refine ((hasDerivAt_const v u).div (hasDerivAt_id v) hv).congr_deriv ?_
    rw [Real.rpow_two]; simp

end closures
end Corgi
