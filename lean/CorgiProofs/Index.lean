/-
  CorgiProofs.Index — the row-major layout.  `rowMajor` and `unflatten` are inverse to each other below the
  product of the dimensions, and both split along `lead ++ tail`; the folds by which the code computes
  offsets are `rowMajor` with the index read as 0 along unit dimensions.  At the end, `Shaped` and the point-wise
  operations the backward layers speak in (`tadd`, `tzip`, `tsmul`, `coord`); their lemmas are in OfFn.
-/
import CorgiSpec.Index
import CorgiProofs.Lists

namespace Corgi

theorem Tensor.mk?_eq_ok_iff {S} {d : List Nat} {v : List S} {t : Tensor S} :
    Tensor.mk? d v = .ok t ↔ (∀ x ∈ d, 1 ≤ x) ∧ prod d = v.length ∧ t = ⟨d, v⟩ := by
  have hall : d.all (fun x => decide (1 ≤ x)) = true ↔ ∀ x ∈ d, 1 ≤ x := by simp
  unfold Tensor.mk?
  rw [← hall]
  by_cases h1 : d.all (fun x => decide (1 ≤ x)) = true <;> by_cases h2 : prod d = v.length <;>
    simp [h1, h2]
  exact eq_comm

theorem Tensor.mk?_ok {S} {d : List Nat} {v : List S} (hpos : ∀ x ∈ d, 1 ≤ x) (hlen : prod d = v.length) :
    Tensor.mk? d v = .ok ⟨d, v⟩ := Tensor.mk?_eq_ok_iff.mpr ⟨hpos, hlen, rfl⟩

theorem mk?_vals_of_ok {S} (d : List Nat) (v : List S) (out : Tensor S) (h : Tensor.mk? d v = .ok out) : out.vals = v := by
  rw [(Tensor.mk?_eq_ok_iff.mp h).2.2]

theorem nested_parts_length {S} (ts : List (Tensor S)) (d : List Nat) (hd : ∀ u ∈ ts, u.dims = d) (hwf : ∀ u ∈ ts, u.WF) :
    ∀ b ∈ ts.map (·.vals), b.length = prod d := fun b hb => by
  obtain ⟨u, hu, rfl⟩ := List.mem_map.mp hb
  rw [← (hwf u hu).2, hd u hu]

/-! The recursive definitions are used through these equations: naming the function in `simp`/`rw` makes every
theorem that does so derive the function's equation lemmas again. -/

theorem prod_nil : prod [] = 1 := by rfl
theorem prod_cons (d : Nat) (ds : List Nat) : prod (d :: ds) = d * prod ds := by rfl
theorem rowMajor_nil (idx : List Nat) : rowMajor [] idx = 0 := by rfl
theorem rowMajor_cons (d : Nat) (ds : List Nat) (i : Nat) (is : List Nat) :
    rowMajor (d :: ds) (i :: is) = i * prod ds + rowMajor ds is := by rfl
theorem inRange_nil : inRange [] [] = true := by rfl
theorem inRange_cons (d : Nat) (ds : List Nat) (i : Nat) (is : List Nat) :
    inRange (d :: ds) (i :: is) = (decide (i < d) && inRange ds is) := by rfl
theorem inRange_cons_nil (d : Nat) (ds : List Nat) : inRange (d :: ds) [] = false := by rfl
theorem inRange_nil_cons (i : Nat) (is : List Nat) : inRange [] (i :: is) = false := by rfl
theorem unflatten_nil (n : Nat) : unflatten [] n = [] := by rfl
theorem unflatten_cons (d : Nat) (ds : List Nat) (n : Nat) :
    unflatten (d :: ds) n = (n / prod ds) :: unflatten ds (n % prod ds) := by rfl

theorem prod_append (a b : List Nat) : prod (a ++ b) = prod a * prod b := by
  induction a with
  | nil => exact (Nat.one_mul _).symm
  | cons d ds ih => rw [List.cons_append, prod_cons, prod_cons, ih, Nat.mul_assoc]

theorem prod_snoc (L : List Nat) (n : Nat) : prod (L ++ [n]) = prod L * n := by
  rw [prod_append, prod_cons, prod_nil, Nat.mul_one]

theorem prod1 (x : Nat) : prod [x] = x := Nat.mul_one x

theorem prod2 (x y : Nat) : prod [x, y] = x * y := congrArg (x * ·) (Nat.mul_one y)

theorem prod3 (x y z : Nat) : prod [x, y, z] = x * y * z := by rw [prod_cons, prod2, Nat.mul_assoc]

theorem prod_replicate_one (k : Nat) : prod (List.replicate k 1) = 1 := by
  induction k with
  | zero => rfl
  | succ k ih => rw [List.replicate_succ, prod_cons, ih]

theorem prod_take_mul_drop (l : List Nat) (n : Nat) : prod (l.take n) * prod (l.drop n) = prod l := by
  rw [← prod_append, List.take_append_drop]

theorem prod_reverse (l : List Nat) : prod l.reverse = prod l := by
  induction l with
  | nil => rfl
  | cons d ds ih => rw [List.reverse_cons, prod_snoc, ih, prod_cons, Nat.mul_comm]

theorem prod_pos {ds : List Nat} (h : ∀ d ∈ ds, 1 ≤ d) : 1 ≤ prod ds := by
  induction ds with
  | nil => exact Nat.le_refl 1
  | cons d ds ih =>
    exact Nat.mul_le_mul (h d List.mem_cons_self) (ih fun x hx => h x (List.mem_cons_of_mem _ hx))

theorem inRange_length {dims idx : List Nat} (h : inRange dims idx = true) : idx.length = dims.length := by
  induction dims generalizing idx with
  | nil => cases idx with
    | nil => rfl
    | cons _ _ => cases h
  | cons d ds ih =>
    cases idx with
    | nil => cases h
    | cons i is =>
      rw [inRange_cons, Bool.and_eq_true] at h
      rw [List.length_cons, List.length_cons, ih h.2]

/-- An in-range multi-index lands inside the buffer; with no dimensions at all, at position 0 of the one-element
    buffer. -/
theorem rowMajor_lt {dims : List Nat} : ∀ {idx : List Nat}, inRange dims idx = true → rowMajor dims idx < prod dims := by
  induction dims with
  | nil => exact fun _ => Nat.one_pos
  | cons d ds ih =>
    intro idx h
    cases idx with
    | nil => cases h
    | cons i is =>
      rw [inRange_cons, Bool.and_eq_true, decide_eq_true_eq] at h
      exact idx2_lt i d _ _ h.1 (ih h.2)

theorem rowMajor_lt_prod {dims idx : List Nat} (h : inRange dims idx = true) :
    rowMajor dims idx < prod dims ∨ dims = [] := .inl (rowMajor_lt h)

theorem inRange1 {a x : Nat} (hx : x < a) : inRange [a] [x] = true := by
  rw [inRange_cons, decide_eq_true hx]; rfl

theorem inRange2 {a b x y : Nat} (hx : x < a) (hy : y < b) : inRange [a, b] [x, y] = true := by
  rw [inRange_cons, decide_eq_true hx, inRange1 hy]; rfl

theorem inRange3 {a b c x y z : Nat} (hx : x < a) (hy : y < b) (hz : z < c) : inRange [a, b, c] [x, y, z] = true := by
  rw [inRange_cons, decide_eq_true hx, inRange2 hy hz]; rfl

theorem rowMajor1 (a x : Nat) : rowMajor [a] [x] = x := (Nat.add_zero _).trans (Nat.mul_one x)

theorem rowMajor2 (a b x y : Nat) : rowMajor [a, b] [x, y] = x * b + y := by
  rw [rowMajor_cons, rowMajor1]; exact congrArg (· + y) (congrArg (x * ·) (Nat.mul_one b))

/-! Both `flatten_indices` and the operand offsets of `sliced_op` / `flatten_to` fold `acc * d + i` over
dimensions and indices and treat a unit dimension as index 0.  One lemma says what that computes for any
index; on an in-range index the zeroing changes nothing. -/

theorem horner_proj (ds : List Nat) : ∀ (is : List Nat) (acc : Nat), ds.length = is.length →
    (ds.zip is).foldl (fun acc p => acc * p.1 + (if p.1 == 1 then 0 else p.2)) acc
      = acc * prod ds + rowMajor ds ((ds.zip is).map (fun p => if p.1 == 1 then 0 else p.2)) := by
  induction ds with
  | nil => exact fun _ acc _ => (Nat.mul_one acc).symm
  | cons d ds ih =>
    intro is acc h
    cases is with
    | nil => cases h
    | cons i is =>
      rw [List.zip_cons_cons, List.foldl_cons, List.map_cons, ih is _ (Nat.succ.inj h), prod_cons, rowMajor_cons, Nat.add_mul,
        Nat.mul_assoc, Nat.add_assoc]

theorem proj_lt (n j : Nat) (hj : j < n) : (if n == 1 then 0 else j) = j := by
  split
  · rename_i h1; rw [eq_of_beq h1] at hj; exact (Nat.lt_one_iff.mp hj).symm
  · rfl

theorem proj_self (d : List Nat) : ∀ (idx : List Nat), inRange d idx = true →
    (d.zip idx).map (fun p => if p.1 == 1 then 0 else p.2) = idx := by
  induction d with
  | nil => intro idx h; cases idx with
    | nil => rfl
    | cons _ _ => cases h
  | cons x xs ih =>
    intro idx h
    cases idx with
    | nil => cases h
    | cons i is =>
      rw [inRange_cons, Bool.and_eq_true, decide_eq_true_eq] at h
      rw [List.zip_cons_cons, List.map_cons, ih is h.2]
      exact congrArg (· :: is) (proj_lt x i h.1)

theorem horner_inRange {ds is : List Nat} (acc : Nat) (h : inRange ds is = true) :
    (ds.zip is).foldl (fun acc p => acc * p.1 + (if p.1 == 1 then 0 else p.2)) acc
      = acc * prod ds + rowMajor ds is := by
  rw [horner_proj ds is acc (inRange_length h).symm, proj_self ds is h]

/-- `flatten_indices` zips the other way round and skips a unit dimension instead of adding 0: the same fold -/
theorem flattenIndices_fold (is : List Nat) : ∀ (ds : List Nat) (acc : Nat),
    (is.zip ds).foldl (fun acc p => if p.2 != 1 then acc * p.2 + p.1 else acc) acc
      = (ds.zip is).foldl (fun acc p => acc * p.1 + (if p.1 == 1 then 0 else p.2)) acc := by
  induction is with
  | nil => intro ds _; cases ds <;> rfl
  | cons i is ih =>
    intro ds acc
    cases ds with
    | nil => rfl
    | cons d ds =>
      rw [List.zip_cons_cons, List.zip_cons_cons, List.foldl_cons, List.foldl_cons, ih]
      by_cases hd : d = 1
      · subst hd; exact congrArg (List.foldl _ · _) (Nat.mul_one acc).symm
      · rw [if_pos (bne_iff_ne.mpr hd), if_neg (fun h => hd (eq_of_beq h))]

theorem flattenIndices_eq_rowMajor {dims idx : List Nat} (h : inRange dims idx = true) (hne : dims ≠ []) :
    flattenIndices idx dims = .ok (rowMajor dims idx) := by
  have hl := inRange_length h
  unfold flattenIndices
  simp only [hl, Nat.lt_irrefl, if_false, Nat.sub_self, List.drop_zero]
  match dims, idx, hne, h with
  | d :: ds, i :: is, _, h =>
    simp only [inRange_cons, Bool.and_eq_true] at h
    simp only [List.drop_succ_cons, List.drop_zero, flattenIndices_fold, horner_inRange i h.2, rowMajor_cons, pure_eq_ok]

theorem Tensor.index_ok {S} (t : Tensor S) (idx : List Nat) (x : S) (hne : t.dims ≠ []) (h : inRange t.dims idx = true)
    (hx : t.vals[rowMajor t.dims idx]? = some x) : t.index idx = .ok x := by
  show (flattenIndices idx t.dims >>= fun off => getR t.vals off) = _
  rw [flattenIndices_eq_rowMajor h hne, ok_bind]
  exact getR_ok _ _ _ hx

theorem unflatten_inRange {dims : List Nat} {n : Nat} (hpos : ∀ d ∈ dims, 1 ≤ d) (hn : n < prod dims) :
    inRange dims (unflatten dims n) = true := by
  induction dims generalizing n with
  | nil => rfl
  | cons d ds ih =>
    have hds : 1 ≤ prod ds := prod_pos (fun x hx => hpos x (List.mem_cons_of_mem _ hx))
    rw [unflatten_cons, inRange_cons, Bool.and_eq_true, decide_eq_true_eq]
    exact ⟨(Nat.div_lt_iff_lt_mul hds).mpr hn, ih (fun x hx => hpos x (List.mem_cons_of_mem _ hx)) (Nat.mod_lt _ hds)⟩

theorem rowMajor_unflatten {dims : List Nat} {n : Nat} (hn : n < prod dims) :
    rowMajor dims (unflatten dims n) = n := by
  induction dims generalizing n with
  | nil => exact (Nat.lt_one_iff.mp hn).symm
  | cons d ds ih =>
    have hp : 0 < prod ds := Nat.pos_of_ne_zero fun hz => by
      rw [prod_cons, hz, Nat.mul_zero] at hn; exact Nat.not_lt_zero _ hn
    rw [unflatten_cons, rowMajor_cons, ih (Nat.mod_lt _ hp)]
    exact Nat.div_add_mod' n (prod ds)

theorem unflatten_rowMajor {dims idx : List Nat} (h : inRange dims idx = true) :
    unflatten dims (rowMajor dims idx) = idx := by
  induction dims generalizing idx with
  | nil => cases idx with
    | nil => rfl
    | cons _ _ => cases h
  | cons d ds ih =>
    cases idx with
    | nil => cases h
    | cons i is =>
      rw [inRange_cons, Bool.and_eq_true] at h
      obtain ⟨h1, h2⟩ := dm i (prod ds) _ (rowMajor_lt h.2)
      rw [rowMajor_cons, unflatten_cons, h1, h2, ih h.2]

theorem unflatten_zero (dims : List Nat) : unflatten dims 0 = List.replicate dims.length 0 := by
  induction dims with
  | nil => rfl
  | cons d ds ih => rw [unflatten_cons, Nat.zero_div, Nat.zero_mod, ih]; rfl

theorem unflatten_length (dims : List Nat) (n : Nat) : (unflatten dims n).length = dims.length := by
  induction dims generalizing n with
  | nil => rfl
  | cons d ds ih => rw [unflatten_cons, List.length_cons, List.length_cons, ih]

theorem rowMajor_append (lead : List Nat) : ∀ (idx tail js : List Nat), idx.length = lead.length →
    rowMajor (lead ++ tail) (idx ++ js) = rowMajor lead idx * prod tail + rowMajor tail js := by
  induction lead with
  | nil =>
    intro idx tail js h
    obtain rfl := List.eq_nil_of_length_eq_zero h
    exact (Nat.zero_add _).symm.trans (congrArg (· + _) (Nat.zero_mul _).symm)
  | cons d ds ih =>
    intro idx tail js h
    cases idx with
    | nil => cases h
    | cons i is =>
      show i * prod (ds ++ tail) + rowMajor (ds ++ tail) (is ++ js) = (i * prod ds + rowMajor ds is) * prod tail + _
      rw [ih is tail js (Nat.succ.inj h), prod_append, Nat.add_mul, Nat.mul_assoc, Nat.add_assoc]

theorem rowMajor_zeros (tail : List Nat) : rowMajor tail (List.replicate tail.length 0) = 0 := by
  induction tail with
  | nil => rfl
  | cons d ds ih => rw [List.length_cons, List.replicate_succ, rowMajor_cons, ih, Nat.zero_mul]

theorem inRange_append_eq (lead : List Nat) : ∀ (idx tail js : List Nat), idx.length = lead.length →
    inRange (lead ++ tail) (idx ++ js) = (inRange lead idx && inRange tail js) := by
  induction lead with
  | nil => intro idx tail js h; obtain rfl := List.eq_nil_of_length_eq_zero h; rfl
  | cons d ds ih =>
    intro idx tail js h
    cases idx with
    | nil => cases h
    | cons i is =>
      show (decide (i < d) && inRange (ds ++ tail) (is ++ js)) = (decide (i < d) && inRange ds is && inRange tail js)
      rw [ih is tail js (Nat.succ.inj h), Bool.and_assoc]

theorem inRange_append (lead idx tail js : List Nat) (h1 : inRange lead idx = true) (h2 : inRange tail js = true) :
    inRange (lead ++ tail) (idx ++ js) = true := by
  rw [inRange_append_eq _ _ _ _ (inRange_length h1), h1, h2]; rfl

theorem inRange_zeros (tail : List Nat) (h : ∀ d ∈ tail, 1 ≤ d) : inRange tail (List.replicate tail.length 0) = true := by
  induction tail with
  | nil => rfl
  | cons d ds ih =>
    have hd : 1 ≤ d := h d (by simp)
    simp only [List.length_cons, List.replicate_succ, inRange_cons, Bool.and_eq_true, decide_eq_true_eq]
    exact ⟨hd, ih (fun x hx => h x (List.mem_cons_of_mem _ hx))⟩

theorem unflatten_append (L : List Nat) : ∀ (T : List Nat) (m : Nat), m < prod (L ++ T) →
    unflatten (L ++ T) m = unflatten L (m / prod T) ++ unflatten T (m % prod T) := by
  induction L with
  | nil => intro T m h; rw [List.nil_append, Nat.mod_eq_of_lt (show m < prod T from h)]; rfl
  | cons d L ih =>
    intro T m h
    have hP : 0 < prod (L ++ T) := Nat.pos_of_ne_zero fun e => by
      rw [List.cons_append, prod_cons, e, Nat.mul_zero] at h; exact Nat.not_lt_zero _ h
    show (m / prod (L ++ T)) :: unflatten (L ++ T) (m % prod (L ++ T))
      = (m / prod T / prod L) :: (unflatten L (m / prod T % prod L) ++ unflatten T (m % prod T))
    rw [ih T _ (Nat.mod_lt _ hP), prod_append, Nat.mod_mul_left_div_self, Nat.mod_mul_left_mod,
      Nat.div_div_eq_div_mul, Nat.mul_comm (prod T)]

theorem unflatten_append_last (L : List Nat) (n q i : Nat) (hi : i < n) (hq : q < prod L) :
    unflatten (L ++ [n]) (q * n + i) = unflatten L q ++ [i] := by
  rw [unflatten_append L [n] _ (by rw [prod_snoc]; exact idx2_lt q _ i n hq hi), show prod [n] = n from Nat.mul_one n,
    (dm q n i hi).1, (dm q n i hi).2]
  exact congrArg (_ ++ [·]) (Nat.div_one i)

theorem unflatten_snoc2 (L : List Nat) (m n p : Nat) (hp : p < prod L * (m * n)) :
    unflatten (L ++ [m, n]) p = unflatten L (p / (m * n)) ++ [p % (m * n) / n, p % (m * n) % n] := by
  rw [unflatten_append L [m, n] p (by rw [prod_append, prod2]; exact hp), prod2]
  show _ ++ [_ / (n * 1), _ % (n * 1) / 1] = _
  rw [Nat.mul_one, Nat.div_one]

variable {S : Type} [Add S]

/-- a tensor of the right dimensions and size -/
def Shaped (d : List Nat) (x : Tensor S) : Prop := x.dims = d ∧ x.vals.length = prod d

/-- pointwise sum of two tensors of equal dimensions -/
def tadd (x y : Tensor S) : Tensor S := ⟨x.dims, List.zipWith (· + ·) x.vals y.vals⟩

theorem Shaped.tadd {d : List Nat} {x y : Tensor S} (hx : Shaped d x) (hy : Shaped d y) : Shaped d (tadd x y) := by
  refine ⟨hx.1, ?_⟩
  simp [Corgi.tadd, hx.2, hy.2]

/-- `zipWith f` on the values, under the dimensions of `x` -/
def tzip (f : S → S → S) (x y : Tensor S) : Tensor S := ⟨x.dims, List.zipWith f x.vals y.vals⟩

def tsmul [Mul S] (c : S) (x : Tensor S) : Tensor S := ⟨x.dims, x.vals.map (c * ·)⟩

theorem Shaped.tsmul [Mul S] {d : List Nat} {x : Tensor S} (c : S) (hx : Shaped d x) : Shaped d (Corgi.tsmul c x) :=
  ⟨hx.1, (List.length_map _).trans hx.2⟩

def coord [ScalarOps S] (j : Nat) (v : List S) : S := v.getD j zero

theorem coord_map [ScalarOps S] (f : S → S) (h0 : f zero = zero) (j : Nat) (v : List S) : coord j (v.map f) = f (coord j v) := by
  induction v generalizing j with
  | nil => exact h0.symm
  | cons x v ih => cases j with
    | zero => rfl
    | succ j => exact ih j

end Corgi
