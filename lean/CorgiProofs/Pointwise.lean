/-
  CorgiProofs.Pointwise — `sum(k)` equals its specification: one `sliced_op` over the array itself; on
  operands of identical (valid) dimensions every broadcasting element-wise operation is the pointwise
  operation; softmax normalises every row of the last dimension (C07).
-/
import CorgiProofs.Ewise

set_option linter.unusedSectionVars false
set_option linter.unusedVariables false

namespace Corgi

section
variable {S : Type} [Add S] [ScalarOps S]

theorem flattenTrailing_replicate_one (lead : List Nat) (k : Nat) (hk : k ≠ 0) :
    flattenTrailing (lead ++ List.replicate k 1) k = .ok (lead ++ [1]) := by
  simp [flattenTrailing, hk, prod_replicate_one]

/-- no bound `k ≤ rank`: the code's `saturating_sub` takes all dimensions when `k` exceeds the rank -/
theorem sum_eq_specSum (a : Tensor S) (k : Nat) (hwf : a.WF) (hk : 1 ≤ k) : sum a k = .ok (specSum a k) := by
  have hk0 : k ≠ 0 := Nat.ne_of_gt hk
  simp only [sum, specSum, hk0, if_false]
  rw [slicedOp_own a sumOp _ (a.dims.drop (a.dims.length - k)) (List.replicate k 1) (_ ++ [1]) k k (fun b => [sumList b])
    (List.take_append_drop _ _).symm (by rw [List.length_take, Nat.min_eq_left (Nat.sub_le _ _)]) hwf.2
    (fun d hd => hwf.1 d (List.mem_of_mem_take hd)) (by simp) (flattenTrailing_replicate_one _ k hk0)
    (fun b _ => ⟨rfl, by simp [prod_replicate_one]⟩), flatten_map_singleton]

end

variable {S : Type} [Add S] [Mul S] [Neg S] [Sub S] [ScalarOps S]

/-- C07, `sum(k)` -/
theorem sum_spec (a : Tensor S) (k : Nat) (hwf : a.WF) (hk : 1 ≤ k) (hkr : k ≤ a.dims.length) :
    sum a k = .ok (specSum a k) := sum_eq_specSum a k hwf hk

variable [BEq S]

theorem ewise_same (f : S → S → S) (d : List Nat) (hne : d ≠ []) (hpos : ∀ x ∈ d, 1 ≤ x) (x y : Tensor S)
    (hx : Shaped d x) (hy : Shaped d y) : ewise f x y = .ok (tzip f x y) :=
  ewise_zipWith f d hne hpos x y hx hy

/-- what `softmax` returns, in flat form: element `i` is `exp aᵢ` over the sum of `exp` along `i`'s row
    of the last dimension (`n` = size of the last dimension) -/
def softmaxFlat (a : Tensor S) (n : Nat) : Tensor S :=
  ⟨a.dims, (List.range a.vals.length).map (fun i =>
    ScalarOps.div (ScalarOps.exp (a.vals.getD i zero)) (sumList (((a.vals.drop (i / n * n)).take n).map ScalarOps.exp)))⟩

/-- C07, softmax: the pointwise `exp`, `sum(1)` and the broadcast division composed -/
theorem softmax_spec (a : Tensor S) (L : List Nat) (n : Nat) (hd : a.dims = L ++ [n]) (hwf : a.WF) :
    softmax a = .ok (softmaxFlat a n) := by
  obtain ⟨ad, av⟩ := a
  subst hd
  have hposL : ∀ d ∈ L, 1 ≤ d := fun d h => hwf.1 d (List.mem_append_left _ h)
  have hn : 1 ≤ n := hwf.1 n (List.mem_append_right _ List.mem_cons_self)
  have hlen : av.length = prod L * n := by rw [← hwf.2, prod_snoc]
  have hwe : (exp ⟨L ++ [n], av⟩).WF := ⟨hwf.1, hwf.2.trans (List.length_map _).symm⟩
  have hsum : sum (exp ⟨L ++ [n], av⟩) 1 = .ok ⟨L ++ [1], (List.range (prod L)).map (fun q =>
      sumList (((av.map ScalarOps.exp).drop (q * n)).take n))⟩ := by
    rw [sum_eq_specSum _ 1 hwe (Nat.le_refl 1)]
    simp [specSum, exp, mapT, prod1]
  generalize hs : (List.range (prod L)).map (fun q => sumList (((av.map ScalarOps.exp).drop (q * n)).take n)) = sv at hsum
  have hws : (⟨L ++ [1], sv⟩ : Tensor S).WF :=
    ⟨fun d hd' => (List.mem_append.mp hd').elim (hposL d) (fun h => Nat.le_of_eq (List.mem_singleton.mp h).symm), by simp [← hs, prod_snoc]⟩
  -- the row sums `L ++ [1]` fit the exponentials `L ++ [n]`, so the two broadcast to `L ++ [n]`
  obtain ⟨hcp, hbd⟩ := Fits_absorb hwf.1 (show Fits (L ++ [1]) (L ++ [n]) = true by rw [Fits_snoc, Fits_refl]; rfl)
  rw [Compat_comm] at hcp
  rw [bdims_comm] at hbd
  simp only [softmax, hsum, ok_bind]
  rw [div, ewise_spec _ _ _ hwe hws (List.append_ne_nil_of_right_ne_nil _ (List.cons_ne_nil _ _))
    (List.append_ne_nil_of_right_ne_nil _ (List.cons_ne_nil _ _)) hcp]
  simp only [specEwise, specEwise', Tensor.ofFn, softmaxFlat, exp, mapT, hbd, prod_snoc, hlen]
  refine congrArg (fun v => Except.ok (Tensor.mk _ v)) (List.map_congr_left fun i hi => ?_)
  have hi' : i < prod L * n := List.mem_range.mp hi
  have hq : i / n < prod L := (Nat.div_lt_iff_lt_mul hn).mpr hi'
  have hj : i % n < n := Nat.mod_lt _ hn
  -- position `i` is column `i % n` of row `i / n`; both operands have the output's leading dimensions
  have hnum := ewise_operand_own L n n (i / n) (i % n) (av.map ScalarOps.exp) (Fits_refl _) hposL hn hq hj
  have hden := ewise_operand_own L 1 n (i / n) (i % n) sv (by simp [Fits_snoc, Fits_refl]) hposL (Nat.le_refl 1) hq hj
  rw [Nat.div_add_mod'] at hnum hden
  rw [hnum, hden, Nat.mod_mod, Nat.div_add_mod', Nat.mod_one, Nat.mul_one, Nat.add_zero, ← hs]
  simp [hi', hq, List.getD_eq_getElem?_getD, hlen]

end Corgi
