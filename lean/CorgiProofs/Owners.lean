/-
  CorgiProofs.Owners — once every root handle is a leaf (no stored operands), nothing but the root
  handles owns a buffer, whatever the heap holds: graphs that were built and dropped, passes that ran,
  gradients — none of them keeps a reference (C18).
-/
import CorgiModel.Program

set_option linter.unusedSectionVars false

namespace Corgi
variable {S : Type}

/-- `i` is marked only if it is a leaf node -/
def LeafMarked (σ : State S) (a : Array Bool) : Prop :=
  ∀ i, a.getD i false = true → ∃ r, σ.nodes[i]? = some r ∧ r.kids = [] ∧ r.op = none

theorem getD_setIfInBounds (a : Array Bool) (j i : Nat) (v : Bool) :
    (a.setIfInBounds j v).getD i false = true → (a.getD i false = true ∨ i = j) := by
  intro h
  simp only [Array.getD_eq_getD_getElem?] at h ⊢
  by_cases hij : j = i
  · right; exact hij.symm
  · left
    rw [Array.getElem?_setIfInBounds_ne hij] at h
    exact h

theorem leafMarked_roots (σ : State S) : ∀ (hs : List Handle),
    (∀ h ∈ hs, ∃ r, σ.nodes[h.node]? = some r ∧ r.kids = [] ∧ r.op = none) →
    ∀ a, LeafMarked σ a → LeafMarked σ (hs.foldl (fun (a : Array Bool) h => a.setIfInBounds h.node true) a) := by
  intro hs
  induction hs with
  | nil => intro _ a ha; exact ha
  | cons h hs ih =>
    intro hl a ha
    refine ih (fun x hx => hl x (.tail _ hx)) _ fun i hi => ?_
    rcases getD_setIfInBounds a h.node i true hi with h1 | h1
    · exact ha i h1
    · subst h1; exact hl h (.head _)

theorem foldl_fixed {α β} (f : β → α → β) (b : β) (h : ∀ a, f b a = b) : ∀ l : List α, l.foldl f b = b
  | [] => rfl
  | a :: l => by rw [List.foldl_cons, h a]; exact foldl_fixed f b h l

/-- the sweep marks nothing new: a marked node is a leaf and has no operands to mark -/
theorem sweep_fix (σ : State S) (is : List Nat) (a : Array Bool) (ha : LeafMarked σ a) : is.foldl σ.markKids a = a := by
  refine foldl_fixed _ a (fun i => ?_) is
  unfold State.markKids
  by_cases hi : a.getD i false = true
  · obtain ⟨r, hr, hk, _⟩ := ha i hi
    simp [hi, hr, hk]
  · simp [hi]

/-- a live node, being a leaf, stores no operand and caches nothing: it adds no owner -/
theorem sum_zero (σ : State S) (b : Nat) (live : Array Bool) (hl : LeafMarked σ live) (is : List Nat) (acc : Nat) :
    is.foldl (σ.ownStep live b) acc = acc := by
  refine foldl_fixed _ acc (fun i => ?_) is
  unfold State.ownStep
  by_cases hi : live.getD i false = true
  · obtain ⟨r, hr, hk, ho⟩ := hl i hi
    simp [hi, hr, hk, ho]
  · simp [hi]

/-- **Nothing but the root handles owns anything** once every root is a leaf. -/
theorem owners_all_leaves (σ : State S) (b : Nat)
    (hleaf : ∀ h ∈ σ.roots, ∃ r, σ.nodes[h.node]? = some r ∧ r.kids = [] ∧ r.op = none) :
    σ.owners b = (σ.roots.filter (·.buf == b)).length := by
  have h0 : LeafMarked σ (Array.replicate σ.nodes.size false) := by
    intro i hi
    rw [Array.getD_eq_getD_getElem?, Array.getElem?_replicate] at hi
    split at hi <;> cases hi
  have h1 := leafMarked_roots σ σ.roots hleaf _ h0
  have hlive : LeafMarked σ σ.live := by
    unfold State.live
    simp only []
    rw [sweep_fix σ _ _ h1]
    exact h1
  unfold State.owners
  rw [sum_zero σ b σ.live hlive]
  simp

end Corgi
