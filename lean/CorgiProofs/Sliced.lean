/-
  CorgiProofs.Sliced — what `sliced_op` computes.  When the output dimensions are the shared leading dimensions
  followed by a tail, the result is the concatenation, over the leading multi-indices in row-major order, of the
  blocks the slice operation produces.  Callers go through `slicedOp_of_fits`: an operand whose leading dimensions
  fit the shared ones is handed over as blocks (`opBlock`), and an entry of a block is the operand read at the
  projected index (`opBlock_get`); `slicesAt`, the validity check and the output offset are not seen outside this file.
-/
import CorgiProofs.Broadcast

namespace Corgi

variable {S : Type}

theorem output_offset (lead tail : List Nat) (n extra : Nat) (hlead : lead ≠ [])
    (hposL : ∀ d ∈ lead, 1 ≤ d) (hposT : ∀ d ∈ tail, 1 ≤ d) (hn : n < prod lead) (hextra : tail.length ≤ extra) :
    flattenIndices ((unflatten lead n ++ List.replicate extra 0).take (lead ++ tail).length) (lead ++ tail)
      = .ok (n * prod tail) := by
  have hlen : (unflatten lead n).length = lead.length := unflatten_length lead n
  rw [List.length_append, ← hlen, List.take_length_add_append, List.take_replicate, Nat.min_eq_left hextra,
    flattenIndices_eq_rowMajor (inRange_append _ _ _ _ (unflatten_inRange hposL hn) (inRange_zeros tail hposT))
      (fun e => hlead (List.append_eq_nil_iff.mp e).1),
    rowMajor_append _ _ _ _ hlen, rowMajor_unflatten hn, rowMajor_zeros, Nat.add_zero]

theorem slicedBody_ok (arrays : List (Tensor S)) (op : List (List S) → R (List S))
    (inDims lead tail : List Nat) (k n : Nat) (sl : List (List S)) (blk : List S)
    (hlead : inDims.take (inDims.length - k) = lead) (hleadlen : lead.length = inDims.length - k) (hne : lead ≠ [])
    (hposL : ∀ d ∈ lead, 1 ≤ d) (hposT : ∀ d ∈ tail, 1 ≤ d) (hn : n < prod lead)
    (hsl : slicesAt arrays k (inDims.length - k) (unflatten lead n) = .ok sl) (hop : op sl = .ok blk)
    (hlen : blk.length = prod tail) :
    slicedBody arrays op inDims (lead ++ tail) k n = .ok blk := by
  have hdrop : (lead ++ tail).drop (inDims.length - k) = tail := hleadlen ▸ List.drop_left
  have hoff := output_offset lead tail n (max inDims.length (lead ++ tail).length - (inDims.length - k)) hne hposL hposT hn
    (by rw [List.length_append, hleadlen]
        exact Nat.le_sub_of_add_le (Nat.le_trans (Nat.le_of_eq (Nat.add_comm _ _)) (Nat.le_max_right _ _)))
  have h1 : ¬ (n * prod tail + prod tail > prod lead * prod tail) :=
    Nat.not_lt.mpr (by rw [← Nat.succ_mul]; exact Nat.mul_le_mul_right _ hn)
  unfold slicedBody
  simp only [hlead, hsl, hoff, hdrop, hop, hlen, ok_bind, pure_eq_ok, prod_append, h1, if_false, bne_self_eq_false,
    Bool.false_eq_true]

theorem flattenTrailing_ok {dims d' : List Nat} {flat : Nat} (h : flattenTrailing dims flat = .ok d')
    (hpos : ∀ d ∈ dims, 1 ≤ d) : (∀ d ∈ d', 1 ≤ d) ∧ prod d' = prod dims := by
  unfold flattenTrailing at h
  split at h
  · cases h; exact ⟨hpos, rfl⟩
  · split at h
    · cases h
    · cases h
      refine ⟨fun d hd => ?_, by rw [prod_snoc, prod_take_mul_drop]⟩
      rcases List.mem_append.mp hd with hd | hd
      · exact hpos d (List.mem_of_mem_take hd)
      · rw [List.mem_singleton.mp hd]
        exact prod_pos fun x hx => hpos x (List.mem_of_mem_drop hx)

section
variable [ScalarOps S]

/-- the loop branch of the code: at least one leading dimension -/
theorem slicedOp_loop (arrays : List (Tensor S)) (op : List (List S) → R (List S))
    (inDims tail : List Nat) (k flat : Nat) (blk : Nat → List S)
    (hvalid : arrays.all (fun v =>
      ((v.dims.reverse.drop k).zip (inDims.reverse.drop k)).all (fun p => p.1 == 1 || p.1 == p.2)) = true)
    (hlc : 0 < inDims.length - k)
    (hposL : ∀ d ∈ inDims.take (inDims.length - k), 1 ≤ d) (hposT : ∀ d ∈ tail, 1 ≤ d)
    (hblk : ∀ n, n < prod (inDims.take (inDims.length - k)) →
      ∃ sl, slicesAt arrays k (inDims.length - k) (unflatten (inDims.take (inDims.length - k)) n) = .ok sl ∧
        op sl = .ok (blk n) ∧ (blk n).length = prod tail) :
    slicedOp arrays op inDims (inDims.take (inDims.length - k) ++ tail) k flat
      = (flattenTrailing (inDims.take (inDims.length - k) ++ tail) flat).bind (fun d' =>
          Tensor.mk? d' ((List.range (prod (inDims.take (inDims.length - k)))).map blk).flatten) := by
  generalize hlead : inDims.take (inDims.length - k) = lead at *
  have hleadlen : lead.length = inDims.length - k := by
    rw [← hlead, List.length_take]; exact Nat.min_eq_left (Nat.sub_le _ _)
  have hleadne : lead ≠ [] := fun e => Nat.ne_of_gt hlc (by rw [← hleadlen, e]; rfl)
  have hdrop : (lead ++ tail).drop (inDims.length - k) = tail := hleadlen ▸ List.drop_left
  -- the slices of the first iteration are taken before the loop
  obtain ⟨sl0, hsl0, -, -⟩ := hblk 0 (prod_pos hposL)
  rw [unflatten_zero, hleadlen] at hsl0
  have hbody : ∀ n, n < prod lead → slicedBody arrays op inDims (lead ++ tail) k n = .ok (blk n) := fun n hn =>
    let ⟨sl, hsl, hop, hlenb⟩ := hblk n hn
    slicedBody_ok arrays op inDims lead tail k n sl _ hlead hleadlen hleadne hposL hposT hn hsl hop hlenb
  unfold slicedOp
  simp only [hvalid, Bool.not_true, Bool.false_eq_true, if_false, ok_bind, Nat.ne_of_gt hlc, hlead, hsl0, hdrop,
    prod_append, tabulateM_ok _ blk (prod lead) hbody, bne_self_eq_false]
  rfl

/-- the branch of the code without a leading dimension: the slice operation is applied once -/
theorem slicedOp_single (arrays : List (Tensor S)) (op : List (List S) → R (List S))
    (inDims outDims : List Nat) (k flat : Nat) (sl : List (List S)) (block : List S)
    (hvalid : arrays.all (fun v =>
      ((v.dims.reverse.drop k).zip (inDims.reverse.drop k)).all (fun p => p.1 == 1 || p.1 == p.2)) = true)
    (hz : inDims.length - k = 0) (hsl : slicesAt arrays k 0 [] = .ok sl) (hop : op sl = .ok block)
    (hlen : block.length = prod outDims) :
    slicedOp arrays op inDims outDims k flat
      = (flattenTrailing outDims flat).bind (fun d' => Tensor.mk? d' block) := by
  unfold slicedOp
  simp only [hvalid, Bool.not_true, Bool.false_eq_true, if_false, ok_bind, hz, if_true, List.drop_zero, hsl, hop, hlen,
    Nat.lt_irrefl, Nat.sub_self, List.replicate_zero, List.append_nil, bne_self_eq_false]
  rfl

/-- both branches: with no leading dimension there is one leading multi-index, `[]`, and the single block is the
    concatenation of one block -/
theorem slicedOp_concat (arrays : List (Tensor S)) (op : List (List S) → R (List S))
    (inDims lead tail : List Nat) (k flat : Nat) (blk : Nat → List S)
    (hlead : inDims.take (inDims.length - k) = lead)
    (hvalid : arrays.all (fun v =>
      ((v.dims.reverse.drop k).zip (inDims.reverse.drop k)).all (fun p => p.1 == 1 || p.1 == p.2)) = true)
    (hposL : ∀ d ∈ lead, 1 ≤ d) (hposT : ∀ d ∈ tail, 1 ≤ d)
    (hblk : ∀ n, n < prod lead →
      ∃ sl, slicesAt arrays k lead.length (unflatten lead n) = .ok sl ∧ op sl = .ok (blk n) ∧
        (blk n).length = prod tail) :
    slicedOp arrays op inDims (lead ++ tail) k flat
      = (flattenTrailing (lead ++ tail) flat).bind (fun d' =>
          Tensor.mk? d' ((List.range (prod lead)).map blk).flatten) := by
  have hlen : lead.length = inDims.length - k := by
    rw [← hlead, List.length_take]; exact Nat.min_eq_left (Nat.sub_le _ _)
  rcases Nat.eq_zero_or_pos (inDims.length - k) with hz | hz
  · obtain rfl : lead = [] := List.eq_nil_of_length_eq_zero (hlen.trans hz)
    obtain ⟨sl, hsl, hop, hl⟩ := hblk 0 Nat.one_pos
    simpa [prod_nil] using slicedOp_single arrays op inDims tail k flat sl (blk 0) hvalid hz hsl hop hl
  · subst hlead
    rw [hlen] at hblk
    exact slicedOp_loop arrays op inDims tail k flat blk hvalid hz hposL hposT hblk

/-- `sliced_op` sees the input dimensions only through their number and their leading part, and the operands only
    through the validity check and their slices -/
theorem slicedOp_congr (arrays arrays' : List (Tensor S)) (op : List (List S) → R (List S))
    (inDims inDims' out : List Nat) (k flat : Nat)
    (hlen : inDims.length = inDims'.length)
    (hlead : inDims.take (inDims.length - k) = inDims'.take (inDims'.length - k))
    (hval : ∀ Z, arrays.all (fun v => ((v.dims.reverse.drop k).zip Z).all (fun p => p.1 == 1 || p.1 == p.2))
      = arrays'.all (fun v => ((v.dims.reverse.drop k).zip Z).all (fun p => p.1 == 1 || p.1 == p.2)))
    (hs : ∀ lc idx, slicesAt arrays k lc idx = slicesAt arrays' k lc idx) :
    slicedOp arrays op inDims out k flat = slicedOp arrays' op inDims' out k flat := by
  have e1 : inDims.reverse.drop k = inDims'.reverse.drop k := by rw [List.drop_reverse, List.drop_reverse, hlead]
  rw [hlen] at hlead
  have e2 : slicedBody arrays op inDims out k = slicedBody arrays' op inDims' out k := by
    funext n
    unfold slicedBody
    simp only [hlen, hlead, hs]
  unfold slicedOp
  simp only [hlen, hlead, e1, e2, hs, hval]

end

/-- the slice of `v` that `sliced_op` hands to the operation at the `n`-th multi-index of `lead` -/
def opBlock (k : Nat) (lead : List Nat) (v : Tensor S) (n : Nat) : List S :=
  (v.vals.drop (projOffset (v.dims.take (v.dims.length - k)) (unflatten lead n) * prod (v.dims.drop (v.dims.length - k)))).take
    (prod (v.dims.drop (v.dims.length - k)))

theorem opBlock_getD [ScalarOps S] (k : Nat) (lead : List Nat) (v : Tensor S) (n j : Nat)
    (hj : j < prod (v.dims.drop (v.dims.length - k))) :
    (opBlock k lead v n).getD j zero
      = v.vals.getD (projOffset (v.dims.take (v.dims.length - k)) (unflatten lead n)
          * prod (v.dims.drop (v.dims.length - k)) + j) zero :=
  getD_block _ _ _ _ hj

theorem opBlock_le (k : Nat) (lead : List Nat) (v : Tensor S) (n : Nat) (hlen : prod v.dims = v.vals.length)
    (hf : Fits (v.dims.take (v.dims.length - k)) lead = true) (hposL : ∀ d ∈ lead, 1 ≤ d) (hn : n < prod lead) :
    projOffset (v.dims.take (v.dims.length - k)) (unflatten lead n) * prod (v.dims.drop (v.dims.length - k))
      + prod (v.dims.drop (v.dims.length - k)) ≤ v.vals.length := by
  rw [← hlen, ← prod_take_mul_drop v.dims (v.dims.length - k),
    projOffset_eq_proj _ _ (by rw [unflatten_length]; exact Fits_length_le hf), ← Nat.succ_mul]
  exact Nat.mul_le_mul_right _ (rowMajor_lt (proj_inRange_of_fits hf (unflatten_inRange hposL hn)))

theorem opBlock_length (k : Nat) (lead vl T : List Nat) (vals : List S) (n : Nat) (hk : (vl ++ T).length - k = vl.length)
    (hlen : prod (vl ++ T) = vals.length) (hf : Fits vl lead = true) (hposL : ∀ d ∈ lead, 1 ≤ d) (hn : n < prod lead) :
    (opBlock k lead ⟨vl ++ T, vals⟩ n).length = prod T := by
  have h := opBlock_le k lead ⟨vl ++ T, vals⟩ n hlen (by rw [hk, List.take_left]; exact hf) hposL hn
  simp only [hk, List.take_left, List.drop_left] at h
  simp only [opBlock, hk, List.take_left, List.drop_left, List.length_take, List.length_drop]
  exact Nat.min_eq_left (Nat.le_sub_of_add_le (Nat.add_comm _ _ ▸ h))

theorem opBlock_own (k : Nat) (lead : List Nat) (v : Tensor S) (n : Nat)
    (hl : v.dims.take (v.dims.length - k) = lead) (hpos : ∀ d ∈ lead, 1 ≤ d) (hn : n < prod lead) :
    opBlock k lead v n = (v.vals.drop (n * prod (v.dims.drop (v.dims.length - k)))).take
      (prod (v.dims.drop (v.dims.length - k))) := by
  rw [opBlock, hl, projOffset_unflatten hpos hn]

variable [ScalarOps S]

/-- `hk`: `T` has `k` entries, or fewer when there is no `vl` -/
theorem opBlock_get (k : Nat) (lead vl T J : List Nat) (vals : List S) (n : Nat) (hk : (vl ++ T).length - k = vl.length)
    (hle : vl.length ≤ lead.length) (hJ : inRange T J = true) :
    (opBlock k lead ⟨vl ++ T, vals⟩ n).getD (rowMajor T J) zero
      = (⟨vl ++ T, vals⟩ : Tensor S).get (proj vl (unflatten lead n) ++ J) := by
  have hL : vl.length ≤ (unflatten lead n).length := by rw [unflatten_length]; exact hle
  rw [Tensor.get, rowMajor_append _ _ _ _ (proj_length _ _ hL), ← projOffset_eq_proj _ _ hL]
  simp only [opBlock, hk, List.take_left, List.drop_left, List.getD_eq_getElem?_getD,
    List.getElem?_take_of_lt (rowMajor_lt hJ), List.getElem?_drop]

theorem slicedOp_of_fits (arrays : List (Tensor S)) (op : List (List S) → R (List S))
    (inDims lead tail d' : List Nat) (k flat : Nat) (blk : Nat → List S)
    (hlead : inDims.take (inDims.length - k) = lead)
    (hfit : ∀ v ∈ arrays, prod v.dims = v.vals.length ∧ Fits (v.dims.take (v.dims.length - k)) lead = true)
    (hposL : ∀ d ∈ lead, 1 ≤ d) (hposT : ∀ d ∈ tail, 1 ≤ d)
    (hft : flattenTrailing (lead ++ tail) flat = .ok d')
    (hop : ∀ n, n < prod lead →
      op (arrays.map (opBlock k lead · n)) = .ok (blk n) ∧ (blk n).length = prod tail) :
    slicedOp arrays op inDims (lead ++ tail) k flat
      = .ok ⟨d', ((List.range (prod lead)).map blk).flatten⟩ := by
  have hvalid : arrays.all (fun v =>
      ((v.dims.reverse.drop k).zip (inDims.reverse.drop k)).all (fun p => p.1 == 1 || p.1 == p.2)) = true := by
    rw [List.all_eq_true]
    intro v hv
    rw [List.drop_reverse, List.drop_reverse, hlead]
    exact fitsRev_zip_all _ _ (hfit v hv).2
  have hsl : ∀ n, n < prod lead →
      slicesAt arrays k lead.length (unflatten lead n) = .ok (arrays.map (opBlock k lead · n)) := by
    intro n hn
    refine mapR_ok _ _ _ fun v hv => ?_
    obtain ⟨hwf, hf⟩ := hfit v hv
    have hmin : min (v.dims.length - k) lead.length = v.dims.length - k :=
      Nat.min_eq_left (by simpa using Fits_length_le hf)
    have hg : prod (v.dims.reverse.take k) = prod (v.dims.drop (v.dims.length - k)) := by
      rw [List.take_reverse, prod_reverse]
    simp only [hmin, hg]
    exact slice_ok _ _ _ (opBlock_le k lead v n hwf hf hposL hn)
  have hposO : ∀ d ∈ lead ++ tail, 1 ≤ d := fun d hd =>
    (List.mem_append.mp hd).elim (hposL d) (hposT d)
  rw [slicedOp_concat arrays op inDims lead tail k flat blk hlead hvalid hposL hposT
    fun n hn => ⟨_, hsl n hn, hop n hn⟩, hft]
  obtain ⟨hpos', hprod⟩ := flattenTrailing_ok hft hposO
  refine Tensor.mk?_ok hpos' ?_
  rw [hprod, prod_append, length_flatten_const (m := prod tail), List.length_map, List.length_range]
  intro b hb
  obtain ⟨n, hn, rfl⟩ := List.mem_map.mp hb
  exact (hop n (List.mem_range.mp hn)).2

/-- one array walking its own leading dimensions `B`, as `sum`, `unroll_blocks`, `roll_blocks` and the closure of
    `sum` call `sliced_op` -/
theorem slicedOp_own (x : Tensor S) (op : List (List S) → R (List S)) (B inTail outTail d' : List Nat) (k flat : Nat)
    (F : List S → List S) (hd : x.dims = B ++ inTail) (hk : x.dims.length - k = B.length)
    (hlen : prod x.dims = x.vals.length) (hposB : ∀ d ∈ B, 1 ≤ d) (hposO : ∀ d ∈ outTail, 1 ≤ d)
    (hft : flattenTrailing (B ++ outTail) flat = .ok d')
    (hop : ∀ blk : List S, blk.length = prod inTail → op [blk] = .ok (F blk) ∧ (F blk).length = prod outTail) :
    slicedOp [x] op x.dims (B ++ outTail) k flat
      = .ok ⟨d', ((List.range (prod B)).map (fun n =>
          F ((x.vals.drop (n * prod inTail)).take (prod inTail)))).flatten⟩ := by
  have htake : x.dims.take (x.dims.length - k) = B := by rw [hk, hd, List.take_left]
  have hdrop : x.dims.drop (x.dims.length - k) = inTail := by rw [hk, hd, List.drop_left]
  have hfit : ∀ v ∈ [x], prod v.dims = v.vals.length ∧ Fits (v.dims.take (v.dims.length - k)) B = true := by
    intro v hv
    rw [List.mem_singleton.mp hv, htake]
    exact ⟨hlen, Fits_refl B⟩
  refine slicedOp_of_fits [x] op x.dims B outTail d' k flat _ htake hfit hposB hposO hft fun n hn => ?_
  rw [List.map_singleton, opBlock_own k B x n htake hposB hn, hdrop]
  exact hop _ (length_block x.vals (by rw [← hlen, hd, prod_append]) hn)

end Corgi

namespace Corgi
variable {S : Type} [Add S] [Mul S] [Neg S] [Sub S] [ScalarOps S] [BEq S]

set_option linter.unusedSectionVars false in
theorem slicedOp_blocks (x : Tensor S) (B inTail outTail : List Nat) (op : List (List S) → R (List S))
    (F : List S → List S) (hx : Shaped (B ++ inTail) x) (hposB : ∀ d ∈ B, 1 ≤ d) (hposO : ∀ d ∈ outTail, 1 ≤ d)
    (hop : ∀ blk : List S, blk.length = prod inTail → op [blk] = .ok (F blk) ∧ (F blk).length = prod outTail) :
    slicedOp [x] op x.dims (B ++ outTail) inTail.length 0
      = .ok ⟨B ++ outTail, ((List.range (prod B)).map (fun n =>
          F ((x.vals.drop (n * prod inTail)).take (prod inTail)))).flatten⟩ :=
  slicedOp_own x op B inTail outTail _ _ 0 F hx.1 (by rw [hx.1, List.length_append, Nat.add_sub_cancel])
    (by rw [hx.1, hx.2]) hposB hposO rfl hop

end Corgi
