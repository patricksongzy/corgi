/-
  CorgiProofs.Composite — the handle-level composites the command interpreter actually runs
  (subtraction, axpy, softmax, conv, the costs) compute the tensor-level functions that the value
  theorems (C04, C06, C07, C15) are stated about: whenever the executed pipeline returns a handle, the
  tensor it denotes is the tensor-level function's result.
-/
import CorgiProofs.Frame
import CorgiProofs.Index

set_option linter.unusedSectionVars false

namespace Corgi
variable {S : Type} [Add S] [Mul S] [Neg S] [Sub S] [ScalarOps S] [BEq S]

/-- the executed operation `r` returns a handle denoting the value of the tensor-level computation `X`;
    it only extends the buffers, and the result's buffer exists -/
def Sound (σ : State S) (r : R (State S × Handle)) (X : R (Tensor S)) : Prop :=
  ∀ σ' h, r = .ok (σ', h) → X = .ok (σ'.tensorOf h) ∧ BufExt σ σ' ∧ h.buf < σ'.bufs.size

theorem Sound.value {σ σ' : State S} {r : R (State S × Handle)} {X : R (Tensor S)} {h : Handle} {v : Tensor S}
    (hs : Sound σ r X) (hok : r = .ok (σ', h)) (hX : X = .ok v) : σ'.tensorOf h = v :=
  Except.ok.inj ((hs σ' h hok).1.symm.trans hX)

theorem sound_alloc (σ : State S) (t : Tensor S) (kids : List Handle) (tag : Option (OpTag S)) (attach : Bool) (label : String) :
    Sound σ (pure (σ.alloc t kids tag attach label)) (.ok t) := by
  intro σ' h e
  cases e
  exact ⟨congrArg _ (tensorOf_alloc_new σ t kids tag attach label).symm, bufExt_alloc σ t kids tag attach label,
    alloc_buf_lt σ t kids tag attach label⟩

/-- a stage that computes a tensor and allocates it -/
theorem Sound.of_val {σ : State S} {X : R (Tensor S)} {f : Tensor S → R (State S × Handle)}
    (h : ∀ t, Sound σ (f t) (.ok t)) : Sound σ (X >>= f) X := by
  intro σ' x e
  obtain ⟨t, rfl, e⟩ := bindOk e
  exact h t σ' x e

/-- a step both sides share (a parameter computation, a dimension lookup) -/
theorem Sound.bindR {α} {σ : State S} {r : R α} {f : α → R (State S × Handle)} {Y : α → R (Tensor S)}
    (h : ∀ a, Sound σ (f a) (Y a)) : Sound σ (r >>= f) (r >>= Y) := by
  intro σ' x e
  obtain ⟨a, rfl, e⟩ := bindOk e
  exact h a σ' x e

/-- a step of the executed side only, whose value the result does not depend on -/
theorem Sound.skip {α} {σ : State S} {r : R α} {f : α → R (State S × Handle)} {X : R (Tensor S)}
    (h : ∀ a, Sound σ (f a) X) : Sound σ (r >>= f) X := by
  intro σ' x e
  obtain ⟨a, _, e⟩ := bindOk e
  exact h a σ' x e

/-- an executed stage, then the rest run on its result: the tensor-level side binds the stage's value -/
theorem Sound.bind {σ : State S} {r : R (State S × Handle)} {f : State S × Handle → R (State S × Handle)}
    {X : R (Tensor S)} {Y : Tensor S → R (Tensor S)} (h1 : Sound σ r X)
    (h2 : ∀ σ1 x, BufExt σ σ1 → x.buf < σ1.bufs.size → Sound σ1 (f (σ1, x)) (Y (σ1.tensorOf x))) :
    Sound σ (r >>= f) (X >>= Y) := by
  intro σ' y e
  obtain ⟨p, e1, e2⟩ := bindOk e
  obtain ⟨v1, x1, b1⟩ := h1 p.1 p.2 e1
  obtain ⟨v2, x2, b2⟩ := h2 p.1 p.2 x1 b1 σ' y e2
  exact ⟨by rw [v1]; exact v2, x1.trans x2, b2⟩

theorem sound_hEwise (tag : OpTag S) (f : Tensor S → Tensor S → R (Tensor S)) (σ : State S) (a b : Handle) :
    Sound σ (hEwise tag f σ a b) (f (σ.tensorOf a) (σ.tensorOf b)) := .of_val fun t => sound_alloc σ t _ _ _ _

theorem sound_hUnary (tag : OpTag S) (f : Tensor S → Tensor S) (σ : State S) (a : Handle) :
    Sound σ (hUnary tag f σ a) (.ok (f (σ.tensorOf a))) := sound_alloc σ _ _ _ _ _

theorem sound_hSum (σ : State S) (a : Handle) (k : Nat) (ha : a.buf < σ.bufs.size) :
    Sound σ (hSum σ a k) (sum (σ.tensorOf a) k) := by
  unfold hSum sum
  split
  · intro σ' h e; cases e; exact ⟨rfl, .refl σ, ha⟩
  · exact .of_val fun t => sound_alloc σ t _ _ _ _

theorem sound_hReshape (σ : State S) (a : Handle) (dims : List Nat) (ha : a.buf < σ.bufs.size) :
    Sound σ (hReshape σ a dims) (reshape (σ.tensorOf a) dims) := by
  intro σ' h e
  obtain ⟨t, ht, e⟩ := bindOk e
  cases e
  cases (Tensor.mk?_eq_ok_iff.mp ht).2.2
  exact ⟨ht, .of_eq rfl, ha⟩

theorem sound_hMatmul (σ : State S) (a : Handle) (ta : Bool) (b : Handle) (tb : Bool) (c : Option Handle) :
    Sound σ (hMatmul σ a ta b tb c) (matmul (σ.tensorOf a) ta (σ.tensorOf b) tb (c.map σ.tensorOf)) :=
  .of_val fun t => by
    cases c with
    | some c => exact sound_alloc σ t _ _ _ _
    | none =>
      intro σ' h e
      obtain ⟨h1, h2, h3⟩ := sound_alloc (hLeaf σ ⟨[1], [zero]⟩).1 t _ _ _ _ σ' h e
      exact ⟨h1, (bufExt_alloc σ _ _ _ _ _).trans h2, h3⟩

theorem sound_hUnroll (σ : State S) (image : Handle) (sr sc fr fc : Nat) :
    Sound σ (hUnroll σ image sr sc fr fc) (unrollBlocks (σ.tensorOf image) sr sc fr fc) :=
  .of_val fun t => .skip fun _ => .skip fun _ => .skip fun _ => sound_alloc σ t _ _ _ _

theorem sound_hExpand (σ : State S) (a : Handle) (r c : Nat) :
    Sound σ (hExpand σ a r c) (expandConv (σ.tensorOf a) r c) := .of_val fun t => sound_alloc σ t _ _ _ _

/-! The composites: an operand that was there before a stage still denotes what it did (`tensorOf_ext`). -/

/-- executed as: negate, then add -/
theorem sound_hSub (σ : State S) (a b : Handle) (ha : a.buf < σ.bufs.size) :
    Sound σ (hSub σ a b) (sub (σ.tensorOf a) (σ.tensorOf b)) :=
  Sound.bind (Y := fun n => add (σ.tensorOf a) n) (sound_hUnary _ _ σ b) fun σ1 nb x1 _ =>
    tensorOf_ext x1 a ha ▸ sound_hEwise _ _ σ1 a nb

/-- executed as: scale, then add -/
theorem sound_hAxpy (σ : State S) (s : S) (x y : Handle) (hy : y.buf < σ.bufs.size) :
    Sound σ (hAxpy σ s x y) (axpy s (σ.tensorOf x) (σ.tensorOf y)) :=
  Sound.bind (Y := fun sx => add sx (σ.tensorOf y)) (sound_hUnary _ _ σ x) fun σ1 sx x1 _ =>
    tensorOf_ext x1 y hy ▸ sound_hEwise _ _ σ1 sx y

/-- executed as: exp, sum(1), divide -/
theorem sound_hSoftmax (σ : State S) (a : Handle) :
    Sound σ (hSoftmax σ a) (softmax (σ.tensorOf a)) :=
  Sound.bind (X := .ok (exp (σ.tensorOf a))) (Y := fun e => sum e 1 >>= fun s => div e s) (sound_hUnary _ _ σ a)
    fun σ1 e _ b1 =>
    Sound.bind (Y := fun s => div (σ1.tensorOf e) s) (sound_hSum σ1 e 1 b1) fun σ2 s x2 _ =>
      tensorOf_ext x2 e b1 ▸ sound_hEwise _ _ σ2 e s

theorem sound_hMse (σ : State S) (o t : Handle) (ht : t.buf < σ.bufs.size) :
    Sound σ (hMse σ o t) (mse (σ.tensorOf o) (σ.tensorOf t)) :=
  Sound.bind (sound_hSub σ t o ht) fun σ1 d _ _ =>
    Sound.bind (X := .ok _) (Y := fun p => .ok (scale p _)) (sound_hUnary _ _ σ1 d) fun σ2 p _ _ => sound_hUnary _ _ σ2 p

theorem sound_hXent (σ : State S) (o t : Handle) (ho : o.buf < σ.bufs.size) :
    Sound σ (hXent σ o t) (crossEntropy (σ.tensorOf o) (σ.tensorOf t)) :=
  Sound.bindR fun _ =>
    Sound.bind (X := .ok _) (Y := fun nt => mul nt (ln (σ.tensorOf o)) >>= fun p => .ok (scale p _))
      (sound_hUnary _ _ σ t) fun σ1 nt x1 b1 =>
    Sound.bind (X := .ok _) (Y := fun lo => mul (σ1.tensorOf nt) lo >>= fun p => .ok (scale p _))
      (tensorOf_ext x1 o ho ▸ sound_hUnary _ _ σ1 o) fun σ2 lo x2 _ =>
    Sound.bind (tensorOf_ext x2 nt b1 ▸ sound_hEwise _ _ σ2 nt lo) fun σ3 p _ _ => sound_hUnary _ _ σ3 p

/-- executed as: im2col node, filter view, matmul node, transposition node; the tensor-level `conv` is the one
    C06 is stated about -/
theorem sound_hConv (σ : State S) (image filters : Handle) (sr sc : Nat) (hf : filters.buf < σ.bufs.size) :
    Sound σ (hConv σ image filters sr sc) (conv (σ.tensorOf image) (σ.tensorOf filters) sr sc) :=
  Sound.bindR fun _ =>
    Sound.bind (sound_hUnroll σ image sr sc _ _) fun σ1 un x1 b1 =>
    Sound.bindR fun _ =>
    Sound.bind (tensorOf_ext x1 filters hf ▸ sound_hReshape σ1 filters _ (Nat.lt_of_lt_of_le hf x1.size)) fun σ2 fm x2 _ =>
    Sound.bind (tensorOf_ext x2 un b1 ▸ sound_hMatmul σ2 un false fm true none) fun σ3 cv _ _ =>
    sound_hExpand σ3 cv _ _

theorem sound_hAct (σ : State S) (act : Act) (a : Handle) (ha : a.buf < σ.bufs.size) :
    Sound σ (hAct σ act a)
      (match act with
       | .none => .ok (σ.tensorOf a)
       | .relu => .ok (relu (σ.tensorOf a))
       | .sigmoid => .ok (sigmoid (σ.tensorOf a))
       | .softmax => softmax (σ.tensorOf a)) := by
  cases act with
  | none => intro σ' h e; cases e; exact ⟨rfl, .refl σ, ha⟩
  | relu | sigmoid => exact sound_hUnary _ _ σ a
  | softmax => exact sound_hSoftmax σ a

end Corgi
