/-
  CorgiProofs.Matmul — `matmul` on operands of rank ≥ 2 computes the batched, optionally transposed product over
  broadcast leading dimensions (C05), for all sizes.  Both sides are written block by block, the specification by
  `Tensor.ofFn_snoc2` and the code by `slicedOp_of_fits`, so that one entry of one block is left to compare
  (`opBlock_entry`).  The additive term is a parameter of the general theorem (`matmul_spec_gen`); none, a bias
  row and a matrix are its instances.
-/
import CorgiProofs.OfFn

set_option linter.unusedSectionVars false
set_option linter.unusedVariables false

namespace Corgi

variable {S : Type} [Add S] [Mul S] [Neg S] [Sub S] [ScalarOps S]

theorem matmulEntry_ok (rows cols sumLen : Nat) (a b : List S) (ta tb : Bool) (init : S) (r j : Nat)
    (terms : Nat → S)
    (h : ∀ k, k < sumLen → ∃ x y, a[if ta then k * rows + r else r * sumLen + k]? = some x ∧
        b[if tb then j * sumLen + k else k * cols + j]? = some y ∧ terms k = x * y) :
    matmulEntry rows cols sumLen a ta b tb init r j = .ok (init + sumList ((List.range sumLen).map terms)) := by
  unfold matmulEntry
  rw [tabulateM_ok _ terms sumLen fun k hk => ?_, ok_bind]
  · rfl
  · obtain ⟨x, y, hx, hy, ht⟩ := h k hk
    rw [getR_ok _ _ _ hx, ok_bind, getR_ok _ _ _ hy, ok_bind, ht]
    rfl

theorem matmulSlice_ok (rows cols kk : Nat) (xa xb : List S) (ta tb : Bool) (init : List S) (ci ea eb : Nat → S)
    (hinit : init = (List.range (rows * cols)).map ci)
    (ha : ∀ i, i < rows * kk → xa[i]? = some (ea i)) (hb : ∀ i, i < kk * cols → xb[i]? = some (eb i)) :
    matmulSlice rows cols kk xa ta xb tb init = .ok ((List.range (rows * cols)).map (fun q =>
      ci q + sumList ((List.range kk).map (fun k =>
        ea (if ta then k * rows + q / cols else q / cols * kk + k)
          * eb (if tb then q % cols * kk + k else k * cols + q % cols))))) := by
  unfold matmulSlice
  rw [tabulateM_ok _ _ _ fun q hq => ?_, ok_bind, hinit, List.drop_eq_nil_of_le (by simp), List.append_nil]
  · rfl
  · have hr : q / cols < rows := div_lt_of_lt_mul_right q rows cols hq
    have hj : q % cols < cols := Nat.mod_lt _ (Nat.pos_of_mul_pos_left (Nat.zero_lt_of_lt hq))
    rw [getR_ok init q (ci q) (by rw [hinit]; simp [hq]), ok_bind]
    refine matmulEntry_ok rows cols kk xa xb ta tb _ _ _ _ fun k hk => ⟨_, _, ha _ ?_, hb _ ?_, rfl⟩
    · split
      · rw [Nat.mul_comm rows kk]; exact idx2_lt _ _ _ _ hk hr
      · exact idx2_lt _ _ _ _ hr hk
    · split
      · rw [Nat.mul_comm kk cols]; exact idx2_lt _ _ _ _ hj hk
      · exact idx2_lt _ _ _ _ hk hj

theorem matmulOp_ok (m n kk : Nat) (ta tb so : Bool) (xa xb xc : List S) (ci : Nat → S)
    (hinit : matmulInit so xc (m * n) = .ok ((List.range (m * n)).map ci))
    (ha : xa.length = m * kk) (hb : xb.length = kk * n) :
    matmulOp m n kk ta tb so (m * n) [xa, xb, xc] = .ok ((List.range (m * n)).map fun q =>
      ci q + sumList ((List.range kk).map fun t =>
        xa.getD (if ta then t * m + q / n else q / n * kk + t) zero
          * xb.getD (if tb then q % n * kk + t else t * n + q % n) zero)) := by
  show (matmulInit so xc (m * n) >>= fun init => matmulSlice m n kk xa ta xb tb init) = _
  rw [hinit, ok_bind]
  exact matmulSlice_ok m n kk xa xb ta tb _ ci (xa.getD · zero) (xb.getD · zero) rfl
    (fun i hi => getElem?_getD xa i (ha ▸ hi)) (fun i hi => getElem?_getD xb i (hb ▸ hi))

theorem cycleTake_ok (z : List S) (N : Nat) (hz : 0 < z.length) :
    cycleTake z N = .ok ((List.range N).map (fun q => z.getD (q % z.length) zero)) := by
  unfold cycleTake
  have : z.isEmpty = false := by cases z; simp at hz; rfl
  simp only [this, Bool.false_eq_true, if_false]
  exact tabulateM_ok _ _ _ fun i _ => getR_ok _ _ _ (getElem?_getD z _ (Nat.mod_lt _ hz))

theorem dimFromEnd_snoc2_ite12 (l : List Nat) (p q : Nat) (t : Bool) :
    dimFromEnd (l ++ [p, q]) (if t then 1 else 2) = .ok (if t then q else p) := by
  cases t
  · exact dimFromEnd_snoc2_2 l p q
  · exact dimFromEnd_snoc2_1 l p q

theorem dimFromEnd_snoc2_ite21 (l : List Nat) (p q : Nat) (t : Bool) :
    dimFromEnd (l ++ [p, q]) (if t then 2 else 1) = .ok (if t then p else q) := by
  cases t
  · exact dimFromEnd_snoc2_1 l p q
  · exact dimFromEnd_snoc2_2 l p q

/-- the two refusals and the success are read off this one equation -/
theorem matmulShape_snoc2 (la lb : List Nat) (a1 a2 b1 b2 : Nat) (ta tb : Bool) :
    matmulShape (la ++ [a1, a2]) ta (lb ++ [b1, b2]) tb
      = ewiseDims la lb >>= fun lead =>
          if (if ta then a1 else a2) == (if tb then b2 else b1) then
            .ok (lead ++ (if la.length ≥ lb.length then [a1, a2] else [b1, b2]),
                 lead ++ [if ta then a2 else a1, if tb then b1 else b2],
                 (if ta then a2 else a1), (if tb then b1 else b2), (if ta then a1 else a2))
          else .error .innerMismatch := by
  have hA : (la ++ [a1, a2]).length = la.length + 2 := List.length_append
  have hB : (lb ++ [b1, b2]).length = lb.length + 2 := List.length_append
  have n2 : ∀ x : Nat, (x + 2 < 2) = False := fun x => eq_false (Nat.not_lt.mpr (Nat.le_add_left 2 x))
  have n3 : ∀ (x : Nat) (t : Bool), (x + 2 < (if t then 2 else 1)) = False := fun x t =>
    eq_false (Nat.not_lt.mpr (by cases t <;> exact Nat.le_add_left _ _))
  have n4 : ∀ (x : Nat) (t : Bool), (x + 2 < (if t then 1 else 2)) = False := fun x t =>
    eq_false (Nat.not_lt.mpr (by cases t <;> exact Nat.le_add_left _ _))
  have hlong : ∀ (c : Prop) [Decidable c], ((if c then la ++ [a1, a2] else lb ++ [b1, b2]).drop
      ((if c then la ++ [a1, a2] else lb ++ [b1, b2]).length - 2)) = (if c then [a1, a2] else [b1, b2]) := by
    intro c _; split <;> exact drop_snoc2 _ _ _
  have hl2 : ∀ (c : Prop) [Decidable c] (lead : List Nat),
      (lead ++ (if c then [a1, a2] else [b1, b2])).length = lead.length + 2 := by
    intro c _ lead; split <;> exact List.length_append
  unfold matmulShape
  simp only [hA, hB, Nat.add_sub_cancel, List.take_left, n2, n3, n4, decide_false, Bool.false_and, Bool.false_eq_true, if_false,
    dimFromEnd_snoc2_ite12, dimFromEnd_snoc2_ite21, hlong, hl2, ok_bind, pure_eq_ok, ge_iff_le, Nat.add_le_add_iff_right,
    throw_eq_error, error_bind]

theorem matmulShape_rank2 (la lb : List Nat) (a1 a2 b1 b2 : Nat) (ta tb : Bool)
    (hc : Compat la lb = true) (hinner : (if ta then a1 else a2) = (if tb then b2 else b1)) :
    matmulShape (la ++ [a1, a2]) ta (lb ++ [b1, b2]) tb
      = .ok (bdims la lb ++ (if la.length ≥ lb.length then [a1, a2] else [b1, b2]),
             bdims la lb ++ [if ta then a2 else a1, if tb then b1 else b2],
             (if ta then a2 else a1), (if tb then b1 else b2), (if ta then a1 else a2)) := by
  rw [matmulShape_snoc2, ewiseDims_spec, hc, hinner]
  simp only [if_true, ok_bind, beq_self_eq_true]

theorem opBlock_get2 (lead la : List Nat) (a1 a2 : Nat) (av : List S) (nL x y : Nat) (hle : la.length ≤ lead.length)
    (hx : x < a1) (hy : y < a2) :
    (opBlock 2 lead ⟨la ++ [a1, a2], av⟩ nL).getD (x * a2 + y) zero
      = (⟨la ++ [a1, a2], av⟩ : Tensor S).get (proj la (unflatten lead nL) ++ [x, y]) :=
  rowMajor2 a1 a2 x y ▸ opBlock_get 2 lead la [a1, a2] [x, y] av nL (length_snoc2_sub la a1 a2) hle (inRange2 hx hy)

/-- The code's position in an operand's block against the specification's index, for entry `(r, t)` of the `m × kk`
    matrix the block stands for under its flag.  For the right operand read `(t, j)` for `(r, t)` and `kk`, `n` for
    `m`, `kk`. -/
theorem opBlock_entry (lead la : List Nat) (a1 a2 : Nat) (av : List S) (nL : Nat) (f : Bool) (m kk r t : Nat)
    (hm : (if f then a2 else a1) = m) (hk : (if f then a1 else a2) = kk) (hle : la.length ≤ lead.length)
    (hr : r < m) (ht : t < kk) :
    (opBlock 2 lead ⟨la ++ [a1, a2], av⟩ nL).getD (if f then t * m + r else r * kk + t) zero
      = (⟨la ++ [a1, a2], av⟩ : Tensor S).get (proj la (unflatten lead nL) ++ (if f then [t, r] else [r, t])) := by
  subst hm hk
  cases f
  · exact opBlock_get2 lead la a1 a2 av nL r t hle hr ht
  · exact opBlock_get2 lead la a1 a2 av nL t r hle ht hr

/-- the additive term's element the specification reads at an output index -/
def cterm (c : Option (Tensor S)) (idx : List Nat) : S :=
  match c with
  | some c => c.get (proj c.dims idx)
  | none => zero

theorem specMatmul_snoc2 (a b : Tensor S) (ta tb : Bool) (c : Option (Tensor S)) (la lb : List Nat) (a1 a2 b1 b2 : Nat)
    (hda : a.dims = la ++ [a1, a2]) (hdb : b.dims = lb ++ [b1, b2]) :
    specMatmul a ta b tb c
      = Tensor.ofFn (bdims la lb ++ [if ta then a2 else a1, if tb then b1 else b2]) (fun idx =>
          cterm c idx + sumRange (if ta then a1 else a2) (fun t =>
            a.get (proj la (idx.take (bdims la lb).length) ++
              (if ta then [t, idx.getD (bdims la lb).length 0] else [idx.getD (bdims la lb).length 0, t]))
            * b.get (proj lb (idx.take (bdims la lb).length) ++
              (if tb then [idx.getD ((bdims la lb).length + 1) 0, t] else [t, idx.getD ((bdims la lb).length + 1) 0])))) := by
  simp only [specMatmul, hda, hdb, take_snoc2, drop_snoc2, List.getD_cons_zero, List.getD_cons_succ]
  cases c <;> rfl

theorem matmul_sizes_pos (ta tb : Bool) (la lb : List Nat) (a1 a2 b1 b2 : Nat)
    (hA : ∀ d ∈ la ++ [a1, a2], 1 ≤ d) (hB : ∀ d ∈ lb ++ [b1, b2], 1 ≤ d) :
    (∀ d ∈ bdims la lb, 1 ≤ d) ∧ 1 ≤ (if ta then a2 else a1) ∧ 1 ≤ (if tb then b1 else b2) := by
  obtain ⟨hla, h1, h2⟩ := pos_append2_iff.mp hA
  obtain ⟨hlb, h3, h4⟩ := pos_append2_iff.mp hB
  exact ⟨bdims_pos la lb hla hlb, by split <;> assumption, by split <;> assumption⟩

theorem specMatmul_dims_snoc2 (a b : Tensor S) (ta tb : Bool) (c : Option (Tensor S)) (la lb : List Nat) (a1 a2 b1 b2 : Nat)
    (hda : a.dims = la ++ [a1, a2]) (hdb : b.dims = lb ++ [b1, b2]) :
    (specMatmul a ta b tb c).dims = bdims la lb ++ [if ta then a2 else a1, if tb then b1 else b2] := by
  rw [specMatmul_snoc2 a b ta tb c la lb a1 a2 b1 b2 hda hdb]
  rfl

theorem specMatmul_WF (a b : Tensor S) (ta tb : Bool) (c : Option (Tensor S)) (la lb : List Nat) (a1 a2 b1 b2 : Nat)
    (hda : a.dims = la ++ [a1, a2]) (hdb : b.dims = lb ++ [b1, b2]) (hwa : a.WF) (hwb : b.WF) :
    (specMatmul a ta b tb c).WF := by
  rw [specMatmul_snoc2 a b ta tb c la lb a1 a2 b1 b2 hda hdb]
  exact Tensor.ofFn_WF _ _ (pos_append2_iff.mpr (matmul_sizes_pos ta tb la lb a1 a2 b1 b2 (hda ▸ hwa.1) (hdb ▸ hwb.1)))

theorem specMatmul_get (a b : Tensor S) (ta tb : Bool) (c : Option (Tensor S)) (la lb : List Nat) (a1 a2 b1 b2 : Nat)
    (hda : a.dims = la ++ [a1, a2]) (hdb : b.dims = lb ++ [b1, b2]) (L : List Nat) (r j : Nat)
    (hL : inRange (bdims la lb) L = true) (hr : r < (if ta then a2 else a1)) (hj : j < (if tb then b1 else b2)) :
    (specMatmul a ta b tb c).get (L ++ [r, j])
      = cterm c (L ++ [r, j]) + sumRange (if ta then a1 else a2) (fun t =>
          a.get (proj la L ++ (if ta then [t, r] else [r, t])) * b.get (proj lb L ++ (if tb then [j, t] else [t, j]))) := by
  have hLl := inRange_length hL
  rw [specMatmul_snoc2 a b ta tb c la lb a1 a2 b1 b2 hda hdb, Tensor.get_ofFn _ _ _ (inRange_append _ _ _ _ hL (inRange2 hr hj)),
    List.take_left' hLl, getD_append_len0 _ _ _ hLl, getD_append_len _ _ _ 1 hLl]
  rfl

theorem matmul_snoc2 (a b : Tensor S) (ta tb : Bool) (c : Option (Tensor S)) (la lb : List Nat) (a1 a2 b1 b2 : Nat)
    (hda : a.dims = la ++ [a1, a2]) (hdb : b.dims = lb ++ [b1, b2])
    (hc : Compat la lb = true) (hinner : (if ta then a1 else a2) = (if tb then b2 else b1)) :
    matmul a ta b tb c
      = addTermCheck c (if ta then a2 else a1) (if tb then b1 else b2) >>= fun _ =>
          slicedOp [a, b, cOperand c]
            (matmulOp (if ta then a2 else a1) (if tb then b1 else b2) (if ta then a1 else a2) ta tb c.isSome
              ((if ta then a2 else a1) * (if tb then b1 else b2)))
            (bdims la lb ++ (if la.length ≥ lb.length then [a1, a2] else [b1, b2]))
            (bdims la lb ++ [if ta then a2 else a1, if tb then b1 else b2]) 2 0 := by
  have hX : (bdims la lb ++ (if la.length ≥ lb.length then [a1, a2] else [b1, b2])).length - 2 = (bdims la lb).length := by
    split <;> simp
  unfold matmul
  rw [hda, hdb, matmulShape_rank2 la lb a1 a2 b1 b2 ta tb hc hinner]
  simp only [ok_bind, hX, List.drop_left, prod2]

/-- C05 with the additive term a parameter.  Beyond the checks the code makes (`hcheck`, `hwc`, `hfc`) one thing is
    asked of it: at every leading multi-index its block initialises the output block with the elements the
    specification adds (`hinit`). -/
theorem matmul_spec_gen (a b : Tensor S) (ta tb : Bool) (c : Option (Tensor S)) (la lb : List Nat) (a1 a2 b1 b2 m n kk : Nat)
    (hda : a.dims = la ++ [a1, a2]) (hdb : b.dims = lb ++ [b1, b2]) (hwa : a.WF) (hwb : b.WF)
    (hc : Compat la lb = true)
    (hm : (if ta then a2 else a1) = m) (hn : (if tb then b1 else b2) = n)
    (hka : (if ta then a1 else a2) = kk) (hkb : (if tb then b2 else b1) = kk)
    (hcheck : addTermCheck c m n = .ok ())
    (hwc : prod (cOperand c).dims = (cOperand c).vals.length)
    (hfc : Fits ((cOperand c).dims.take ((cOperand c).dims.length - 2)) (bdims la lb) = true)
    (hinit : ∀ nL, nL < prod (bdims la lb) →
      matmulInit c.isSome (opBlock 2 (bdims la lb) (cOperand c) nL) (m * n)
        = .ok ((List.range (m * n)).map fun q => cterm c (unflatten (bdims la lb) nL ++ [q / n, q % n]))) :
    matmul a ta b tb c = .ok (specMatmul a ta b tb c) := by
  obtain ⟨hposL, hm1, hn1⟩ := matmul_sizes_pos ta tb la lb a1 a2 b1 b2 (hda ▸ hwa.1) (hdb ▸ hwb.1)
  rw [hm] at hm1
  rw [hn] at hn1
  obtain ⟨_, av⟩ := a
  obtain ⟨_, bv⟩ := b
  subst hda hdb
  have hposLa : ∀ d ∈ la, 1 ≤ d := fun d hd => hwa.1 d (List.mem_append_left _ hd)
  have hposLb : ∀ d ∈ lb, 1 ≤ d := fun d hd => hwb.1 d (List.mem_append_left _ hd)
  have hfa := Fits_bdims_left la lb hposLa hc
  have hfb := Fits_bdims_right la lb hposLb hc
  have hA : a1 * a2 = m * kk := by
    subst hm hka; cases ta
    · rfl
    · exact Nat.mul_comm _ _
  have hB : b1 * b2 = kk * n := by
    subst hn hkb; cases tb
    · rfl
    · exact Nat.mul_comm _ _
  have hfit : ∀ v ∈ [(⟨la ++ [a1, a2], av⟩ : Tensor S), ⟨lb ++ [b1, b2], bv⟩, cOperand c],
      prod v.dims = v.vals.length ∧ Fits (v.dims.take (v.dims.length - 2)) (bdims la lb) = true :=
    forall_mem3 ⟨hwa.2, by rw [take_snoc2]; exact hfa⟩ ⟨hwb.2, by rw [take_snoc2]; exact hfb⟩ ⟨hwc, hfc⟩
  -- both sides block by block, the specification by `Tensor.ofFn_snoc2`, the code by `slicedOp_of_fits`: entry `q` of
  -- block `nL` sits at output index `unflatten lead nL ++ [q / n, q % n]`, and only that entry is left to compare
  rw [specMatmul_snoc2 _ _ ta tb c la lb a1 a2 b1 b2 rfl rfl, matmul_snoc2 _ _ ta tb c la lb a1 a2 b1 b2 rfl rfl hc
    (hka.trans hkb.symm), hm, hn, hka, hcheck, ok_bind, Tensor.ofFn_snoc2 _ m n _ hposL]
  refine slicedOp_of_fits _ _ _ (bdims la lb) [m, n] _ 2 0 _ (List.take_left' (by split <;> simp)) hfit hposL
    (pos_append2 (l := []) (fun _ h => nomatch h) hm1 hn1) rfl fun nL hnL => ⟨?_, by rw [List.length_map, List.length_range, prod2]⟩
  have hla := (opBlock_length 2 _ la [a1, a2] av nL (length_snoc2_sub la a1 a2) hwa.2 hfa hposL hnL).trans (prod2 a1 a2)
  have hlb := (opBlock_length 2 _ lb [b1, b2] bv nL (length_snoc2_sub lb b1 b2) hwb.2 hfb hposL hnL).trans (prod2 b1 b2)
  have hLl := unflatten_length (bdims la lb) nL
  have hlea := Fits_length_le hfa
  have hleb := Fits_length_le hfb
  simp only [List.map_cons, List.map_nil]
  rw [matmulOp_ok m n kk ta tb _ _ _ _ _ (hinit nL hnL) (hla.trans hA) (hlb.trans hB)]
  refine congrArg Except.ok (List.map_congr_left fun q hq => ?_)
  have hq' : q < m * n := List.mem_range.mp hq
  have hr : q / n < m := div_lt_of_lt_mul_right q m n hq'
  have hj : q % n < n := Nat.mod_lt _ hn1
  simp only [List.take_left' hLl, getD_append_len0 _ _ _ hLl, getD_append_len _ _ _ 1 hLl, List.getD_cons_zero,
    List.getD_cons_succ, sumRange]
  refine congrArg _ (congrArg sumList (List.map_congr_left fun t ht => ?_))
  have ht' : t < kk := List.mem_range.mp ht
  rw [opBlock_entry _ la a1 a2 av nL ta m kk _ t hm hka hlea hr ht', opBlock_entry _ lb b1 b2 bv nL tb kk n t _ hkb hn hleb ht' hj]

/-- C05 without additive term -/
theorem matmul_spec_none (a b : Tensor S) (ta tb : Bool) (la lb : List Nat) (a1 a2 b1 b2 : Nat)
    (hda : a.dims = la ++ [a1, a2]) (hdb : b.dims = lb ++ [b1, b2]) (hwa : a.WF) (hwb : b.WF)
    (hc : Compat la lb = true) (hinner : (if ta then a1 else a2) = (if tb then b2 else b1)) :
    matmul a ta b tb none = .ok (specMatmul a ta b tb none) :=
  matmul_spec_gen a b ta tb none la lb a1 a2 b1 b2 _ _ _ hda hdb hwa hwb hc rfl rfl rfl hinner.symm
    rfl rfl rfl fun _ _ => by
      show Except.ok (List.replicate _ zero) = Except.ok ((List.range _).map fun _ => zero)
      rw [List.map_const', List.length_range]

theorem addTermCheck_ok (c : Tensor S) (m n : Nat) (h1 : dimFromEnd c.dims 1 = .ok n)
    (h2 : c.dims.length < 2 ∨ ∃ cr, dimFromEnd c.dims 2 = .ok cr ∧ (cr = 1 ∨ cr = m)) :
    addTermCheck (some c) m n = .ok () := by
  rcases h2 with h2 | ⟨cr, h2, rfl | rfl⟩ <;>
    simp only [addTermCheck, h1, h2, if_true, ok_bind, pure_eq_ok, beq_self_eq_true, Bool.or_true, Bool.true_or, Bool.and_self,
      Bool.not_true, Bool.false_eq_true, if_false, ite_self]

/-- C05 with an additive term as `sliced_op` sees it: `c : cl ++ T` with leading dimensions `cl` that fit the batch
    dimensions and a block `T`.  The code cycles the block over the `m × n` output block, so position `q` receives
    the block's element `q % prod T`; the specification reads the additive term at the projected output index.
    `J q` is the index in `T` at which the two meet. -/
theorem matmul_spec_tail (a b c : Tensor S) (ta tb : Bool) (la lb cl T : List Nat) (a1 a2 b1 b2 m n : Nat)
    (hda : a.dims = la ++ [a1, a2]) (hdb : b.dims = lb ++ [b1, b2]) (hwa : a.WF) (hwb : b.WF)
    (hc : Compat la lb = true) (hinner : (if ta then a1 else a2) = (if tb then b2 else b1))
    (hm : (if ta then a2 else a1) = m) (hn : (if tb then b1 else b2) = n)
    (hdc : c.dims = cl ++ T) (hT : (cl ++ T).length - 2 = cl.length) (hwc : c.WF) (hfc : Fits cl (bdims la lb) = true)
    (hcheck : addTermCheck (some c) m n = .ok ())
    (J : Nat → List Nat)
    (hJ : ∀ q, q < m * n → inRange T (J q) = true ∧ rowMajor T (J q) = q % prod T ∧
      ∀ L : List Nat, cl.length ≤ L.length → proj (cl ++ T) (L ++ [q / n, q % n]) = proj cl L ++ J q) :
    matmul a ta b tb (some c) = .ok (specMatmul a ta b tb (some c)) := by
  obtain ⟨hposL, -, -⟩ := matmul_sizes_pos ta tb la lb a1 a2 b1 b2 (hda ▸ hwa.1) (hdb ▸ hwb.1)
  obtain ⟨_, cv⟩ := c
  subst hdc
  have hlec := Fits_length_le hfc
  have htk : (cl ++ T).take ((cl ++ T).length - 2) = cl := List.take_left' hT.symm
  have hT1 : 1 ≤ prod T := prod_pos fun d hd => hwc.1 d (List.mem_append_right _ hd)
  refine matmul_spec_gen a b ta tb (some ⟨cl ++ T, cv⟩) la lb a1 a2 b1 b2 m n _ hda hdb hwa hwb hc hm hn rfl hinner.symm
    hcheck hwc.2 (by rw [cOperand, htk]; exact hfc) fun nL hnL => ?_
  have hl := opBlock_length 2 (bdims la lb) cl T cv nL hT hwc.2 hfc hposL hnL
  simp only [matmulInit, Option.isSome_some, if_true, cOperand]
  rw [cycleTake_ok _ _ (by rw [hl]; exact hT1), hl]
  refine congrArg Except.ok (List.map_congr_left fun q hq => ?_)
  obtain ⟨h1, h2, h3⟩ := hJ q (List.mem_range.mp hq)
  rw [← h2, opBlock_get 2 _ cl T (J q) cv nL hT hlec h1, cterm, h3 _ (by rw [unflatten_length]; exact hlec)]

/-- C05 with a bias row, the call a dense layer makes -/
theorem matmul_spec_bias (a b c : Tensor S) (ta tb : Bool) (la lb : List Nat) (a1 a2 b1 b2 : Nat)
    (hda : a.dims = la ++ [a1, a2]) (hdb : b.dims = lb ++ [b1, b2]) (hwa : a.WF) (hwb : b.WF)
    (hc : Compat la lb = true) (hinner : (if ta then a1 else a2) = (if tb then b2 else b1))
    (hdc : c.dims = [if tb then b1 else b2]) (hwc : c.WF) :
    matmul a ta b tb (some c) = .ok (specMatmul a ta b tb (some c)) := by
  obtain ⟨-, -, hn1⟩ := matmul_sizes_pos ta tb la lb a1 a2 b1 b2 (hda ▸ hwa.1) (hdb ▸ hwb.1)
  generalize hn : (if tb then b1 else b2) = n at *
  refine matmul_spec_tail a b c ta tb la lb [] [n] a1 a2 b1 b2 _ n hda hdb hwa hwb hc hinner rfl hn hdc rfl hwc rfl
    (addTermCheck_ok c _ n (by rw [hdc]; rfl) (.inl (by rw [hdc]; exact Nat.lt_succ_self 1))) (fun q => [q % n]) fun q _ => ?_
  · have hj : q % n < n := Nat.mod_lt _ hn1
    refine ⟨inRange1 hj, by rw [rowMajor1, prod1], fun L _ => ?_⟩
    rw [List.append_cons L]
    exact (proj_append_last [] _ n _ (Nat.zero_le _)).trans (congrArg (fun x => [x]) (proj_lt n _ hj))

/-- C05 with a matrix additive term of one or `rows` rows -/
theorem matmul_spec_addterm (a b c : Tensor S) (ta tb : Bool) (la lb cl : List Nat) (a1 a2 b1 b2 c1 : Nat)
    (hda : a.dims = la ++ [a1, a2]) (hdb : b.dims = lb ++ [b1, b2]) (hwa : a.WF) (hwb : b.WF)
    (hc : Compat la lb = true) (hinner : (if ta then a1 else a2) = (if tb then b2 else b1))
    (hdc : c.dims = cl ++ [c1, if tb then b1 else b2]) (hwc : c.WF)
    (hc1 : c1 = 1 ∨ c1 = (if ta then a2 else a1)) (hfc : Fits cl (bdims la lb) = true) :
    matmul a ta b tb (some c) = .ok (specMatmul a ta b tb (some c)) := by
  obtain ⟨-, -, hn1⟩ := matmul_sizes_pos ta tb la lb a1 a2 b1 b2 (hda ▸ hwa.1) (hdb ▸ hwb.1)
  generalize hn : (if tb then b1 else b2) = n at *
  generalize hm : (if ta then a2 else a1) = m at *
  refine matmul_spec_tail a b c ta tb la lb cl [c1, n] a1 a2 b1 b2 m n hda hdb hwa hwb hc hinner hm hn hdc
    (length_snoc2_sub cl c1 n) hwc hfc
    (addTermCheck_ok c m n (by rw [hdc]; exact dimFromEnd_snoc2_1 cl c1 n)
      (.inr ⟨c1, by rw [hdc]; exact dimFromEnd_snoc2_2 cl c1 n, hc1⟩))
    (fun q => [if c1 == 1 then 0 else q / n, q % n]) fun q hq => ?_
  · have hj : q % n < n := Nat.mod_lt _ hn1
    have hr : q / n < m := div_lt_of_lt_mul_right q m n hq
    -- the block position modulo the additive block size is the projected (row, column)
    have hx : (if c1 == 1 then 0 else q / n) < c1 ∧ (if c1 == 1 then 0 else q / n) * n + q % n = q % (c1 * n) := by
      rcases hc1 with rfl | rfl
      · simp
      · rw [proj_lt _ _ hr, Nat.div_add_mod', Nat.mod_eq_of_lt hq]; exact ⟨hr, rfl⟩
    exact ⟨inRange2 hx.1 hj, by rw [rowMajor2, prod2]; exact hx.2,
      fun L hL => by rw [proj_append2 _ _ _ _ _ _ hL, proj_lt n _ hj]⟩

theorem matmulShape_rank1_left (k : Nat) (lb : List Nat) (b1 b2 : Nat) (tb : Bool)
    (hinner : k = if tb then b2 else b1) :
    matmulShape [k] false (lb ++ [b1, b2]) tb
      = .ok (lb ++ [b1, b2], lb ++ [1, if tb then b1 else b2], 1, (if tb then b1 else b2), k) := by
  have hB : (lb ++ [b1, b2]).length = lb.length + 2 := List.length_append
  have hk : dimFromEnd [k] 1 = .ok k := rfl
  have n1 : ∀ x : Nat, (x + 2 ≤ 1) = False := fun x => eq_false (Nat.not_le.mpr (Nat.lt_add_left x (Nat.lt_succ_self 1)))
  have n2 : ∀ x : Nat, (x + 2 < 2) = False := fun x => eq_false (Nat.not_lt.mpr (Nat.le_add_left 2 x))
  have n4 : ∀ (x : Nat) (t : Bool), (x + 2 < (if t then 1 else 2)) = False := fun x t =>
    eq_false (Nat.not_lt.mpr (by cases t <;> exact Nat.le_add_left _ _))
  unfold matmulShape
  simp only [hB, ge_iff_le, n1, n2, n4, if_false, Nat.add_sub_cancel, List.take_left, List.drop_left, List.length_cons,
    List.length_nil, show (1 - 2 : Nat) = 0 from rfl, List.take_zero, ewiseDims_spec, Compat_nil_left, bdims_nil_left, if_true,
    ok_bind, Bool.false_eq_true, Bool.not_false, Bool.true_or, Bool.and_true, decide_true, decide_false, Bool.false_and,
    pure_eq_ok, dimFromEnd_snoc2_ite12, dimFromEnd_snoc2_ite21, hk, ← hinner, beq_self_eq_true,
    show (1 < 2) = True from eq_true (by decide), show (1 < 1) = False from eq_false (by decide)]

/-- C05 for a rank-1 left operand: the call runs the computation of the call on the `1 × k` matrix, whose value
    `matmul_spec_none` gives -/
theorem matmul_rank1_left (av : List S) (k : Nat) (b : Tensor S) (tb : Bool) (lb : List Nat) (b1 b2 : Nat)
    (hdb : b.dims = lb ++ [b1, b2]) (hinner : k = if tb then b2 else b1) :
    matmul (⟨[k], av⟩ : Tensor S) false b tb none = matmul (⟨[1, k], av⟩ : Tensor S) false b tb none := by
  have h2 := matmulShape_rank2 [] lb 1 k b1 b2 false tb (Compat_nil_left lb) (by simpa using hinner)
  simp only [List.nil_append, Bool.false_eq_true, if_false, bdims_nil_left] at h2
  have hlen : (lb ++ (if ([] : List Nat).length ≥ lb.length then [1, k] else [b1, b2])).length = (lb ++ [b1, b2]).length := by
    rw [List.length_append, List.length_append]; split <;> rfl
  unfold matmul
  rw [hdb]
  simp only [matmulShape_rank1_left k lb b1 b2 tb hinner, h2, addTermCheck, pure_eq_ok, ok_bind, hlen]
  -- the vector and the one-row matrix have no leading dimension and the same block of `k` values
  exact slicedOp_congr _ _ _ _ _ _ 2 0 hlen.symm (by rw [hlen, take_snoc2]; exact (List.take_left' (by simp)).symm)
    (fun Z => rfl) fun lc idx => rfl

theorem matmul_dot (av bv : List S) (k : Nat) (hk : 1 ≤ k) (ha : av.length = k) (hb : bv.length = k) :
    matmul (⟨[k], av⟩ : Tensor S) false ⟨[k], bv⟩ false none
      = .ok ⟨[1], [zero + sumList ((List.range k).map (fun t => av.getD t zero * bv.getD t zero))]⟩ := by
  have hshape : matmulShape [k] false [k] false = .ok ([k], [1], 1, 1, k) := by
    have hc : Compat [] [] = true ∧ bdims [] [] = [] := ⟨rfl, rfl⟩
    simp [matmulShape, ewiseDims_spec, hc, ok_bind, pure_eq_ok, dimFromEnd, getR]
  have e : ∀ (v : List S) nL, v.length = k → opBlock 2 [] (⟨[k], v⟩ : Tensor S) nL = v := fun v nL hv => by
    simp [opBlock, projOffset, prod1, ← hv]
  have hg : prod (List.drop ([k].length - 2) [1]) = 1 * 1 := rfl
  unfold matmul
  simp only [hshape, ok_bind, addTermCheck, pure_eq_ok, Option.isSome_none, cOperand, hg]
  -- no leading dimension, both operands one block of `k` values, a `1 × 1` output block under dimensions `[1]`
  refine (slicedOp_of_fits _ _ [k] [] [1] [1] 2 0
    (fun _ => [zero + sumList ((List.range k).map (fun t => av.getD t zero * bv.getD t zero))]) rfl
    (forall_mem3 (x := (⟨[k], av⟩ : Tensor S)) (y := ⟨[k], bv⟩) (z := ⟨[1], [zero]⟩)
      ⟨(Nat.mul_one k).trans ha.symm, rfl⟩ ⟨(Nat.mul_one k).trans hb.symm, rfl⟩ ⟨rfl, rfl⟩)
    (fun _ h => nomatch h) (fun _ h => by rw [List.mem_singleton.mp h]; exact Nat.le_refl 1) rfl
    fun nL _ => ⟨?_, rfl⟩).trans rfl
  simp only [List.map_cons, List.map_nil, e av _ ha, e bv _ hb]
  rw [matmulOp_ok 1 1 k false false false av bv _ (fun _ => zero) rfl (by rw [ha, Nat.one_mul]) (by rw [hb, Nat.mul_one])]
  exact congrArg (fun x => Except.ok [zero + sumList x]) (List.map_congr_left fun t _ => by
    simp only [Nat.zero_div, Nat.zero_mul, Nat.zero_add, Nat.mul_one, Nat.zero_mod, Nat.add_zero, Bool.false_eq_true, if_false])

end Corgi
