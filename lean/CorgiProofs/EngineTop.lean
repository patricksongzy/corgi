/-
  CorgiProofs.EngineTop — the counting theorem for a whole pass started on a clean state.
-/
import CorgiProofs.EngineProcess

set_option linter.unusedSectionVars false

namespace Corgi
open Classical

variable {S : Type} [Add S] [Mul S] [Neg S] [Sub S] [ScalarOps S] [BEq S]

theorem Reach.parent {G : Graph S} {root m : Nat} (h : Reach G root m) (hne : m ≠ root) :
    ∃ p s, Reach G root p ∧ s ∈ G.kids p ∧ s.tracked = true ∧ s.node = m := by
  cases h with
  | root => exact absurd rfl hne
  | step s hp hs ht => exact ⟨_, s, hp, hs, ht, rfl⟩

/-- between passes: all counters zero, no pending delta -/
def EState.Clean (σ : EState S) : Prop := (∀ m, σ.cnt m = 0) ∧ (∀ m, σ.delta m = none)

theorem all_entered {G : Graph S} (wf : G.WF) {root B : Nat} {σ : EState S} (h : CInv G root B σ (fun _ => 0))
    (hal : Alive G root σ root) (hroot : root ∈ logN σ) :
    ∀ d m, Reach G root m → root - m < d → m ∈ logN σ := by
  intro d
  induction d with
  | zero => exact fun m _ h0 => absurd h0 (Nat.not_lt_zero _)
  | succ d ih =>
    intro m hR hd
    apply Classical.byContradiction
    intro hnot
    have hne : m ≠ root := fun e => hnot (e ▸ hroot)
    have h2 : σ.cnt m = U G root B (logN σ) m := h.acct m
    have hpos : 0 < U G root B (logN σ) m := h2 ▸ hal m hR hnot hne hne
    obtain ⟨p, _, ⟨hRp, hpl⟩, he⟩ := indeg_pos G _ m B hpos
    -- a consumer `p` of `m` is closer to the root
    have hmp : m < p := wf.lt_of_edge he
    exact hpl (ih p hRp (Nat.lt_of_lt_of_le (Nat.sub_lt_sub_left (Nat.lt_of_lt_of_le hmp (hRp.le wf)) hmp)
      (Nat.le_of_lt_succ hd)))

section
variable (G : Graph S) (wf : G.WF) (lawful : G.Lawful)
include wf lawful

/-- **The counting theorem.**  A pass that completes on a clean state, over a well-founded graph
    with lawful closures, (1) leaves every counter at zero and every pending delta empty,
    (2) enters exactly the nodes reachable from the root through tracked operands, each once,
    (3) each only after all its consumers in that graph. -/
theorem backward_counts (fuel root : Nat) (hf : root < fuel) (dims : List Nat) (keep : Bool)
    (seed : Option (Tensor S)) (σ σ' : EState S) (hclean : σ.Clean) (hlog : σ.log = [])
    (hok : backward G fuel root dims keep seed σ = .ok σ') :
    σ'.Clean ∧ (logN σ').Nodup ∧ (∀ m, m ∈ logN σ' ↔ Reach G root m) ∧ LogOrder G root (logN σ') := by
  obtain ⟨hc0, hd0⟩ := hclean
  obtain ⟨σp, hok, -, hlogp, hp⟩ := backward_ok hok
  obtain ⟨x, -, hσp⟩ := hp (hd0 root)
  let B := root + 1
  have hrB : root < B := Nat.lt_succ_self root
  have hlogp : logN σp = [] := by rw [logN, hlogp, hlog]; rfl
  have hcntp : ∀ m, σp.cnt m = indeg G (Reach G root) m B := fun m => by
    rw [hσp, funext hc0]; exact propagate_spec G root B hrB wf fuel hf m
  have hno : ∀ m, m ∉ logN σp := fun m hm => by rw [hlogp] at hm; cases hm
  have hInv : CInv G root B σp (fun _ => 0) := by
    refine ⟨fun m => ?_, fun m hm => absurd hm (hno m), fun m hm => absurd hm (hno m), hlogp ▸ List.nodup_nil,
      hlogp ▸ trivial, fun m hm => absurd hm (hno m), fun m hm => ?_⟩
    · rw [hcntp m, hlogp]
      exact indeg_congr G _ _ m B fun p _ => ⟨fun h => ⟨h, List.not_mem_nil⟩, And.left⟩
    · have : m ≠ root := fun e => hm (e ▸ Reach.root)
      rw [hσp]; exact (upd_of_ne _ _ this).trans (hd0 m)
  have hal : Alive G root σp root := by
    intro m hR _ hne _
    obtain ⟨p, s, hRp, hs, ht, hsn⟩ := hR.parent hne
    rw [hcntp m]
    exact Nat.le_trans (hsn ▸ edges_pos hs ht) (indeg_ge G (Reach G root) m p hRp B (Nat.lt_succ_of_le (hRp.le wf)))
  have hroot0 : σp.cnt root = 0 := by
    rw [hcntp root]
    exact indeg_zero G _ _ B fun p _ hRp => Nat.eq_zero_of_not_pos fun he =>
      Nat.lt_irrefl _ (Nat.lt_of_lt_of_le (wf.lt_of_edge he) (hRp.le wf))
  have hfin := process_inv G root B wf hrB lawful fuel root keep σp σ' (fun _ => 0) hf Reach.root
    (hno root) hrB hroot0 hInv hal hok
  obtain ⟨hI, hA, hmono⟩ := hfin
  have hrootlog : root ∈ logN σ' := hmono root (List.mem_cons_self ..)
  have hall : ∀ m, Reach G root m → m ∈ logN σ' := fun m hR =>
    all_entered wf hI hA hrootlog (root - m + 1) m hR (Nat.lt_succ_self _)
  refine ⟨⟨?_, ?_⟩, hI.nodup, fun m => ⟨hI.sub m, hall m⟩, hI.ord⟩
  · intro m
    rw [show σ'.cnt m = U G root B (logN σ') m from hI.acct m]
    apply indeg_zero
    intro p _ ⟨hRp, hpl⟩
    exact absurd (hall p hRp) hpl
  · intro m
    by_cases hR : Reach G root m
    · exact hI.dlog m (hall m hR)
    · exact hI.dout m hR

/-- … and touches no gradient cell outside that set -/
theorem backward_untouched (fuel root : Nat) (hf : root < fuel) (dims : List Nat) (keep : Bool)
    (seed : Option (Tensor S)) (σ σ' : EState S) (hclean : σ.Clean) (hlog : σ.log = [])
    (hok : backward G fuel root dims keep seed σ = .ok σ') :
    ∀ m, ¬ Reach G root m → σ'.grad m = σ.grad m := fun m hm =>
  backward_frame G fuel root dims keep seed σ σ' hok m fun hin =>
    hm (((backward_counts G wf lawful fuel root hf dims keep seed σ σ' hclean hlog hok).2.2.1 m).mp hin)

end
end Corgi
