/-
  CorgiProofs.HeapStep — every command of the language is a `Step`: it rewrites no existing buffer
  (C08) and preserves the invariant of reachable states (the heap invariant together with validity of
  every root handle).  One walk over the commands establishes both; histories follow by transitivity.
  So in every reachable state the recorded graph is well-founded with lawful closures and the engine state
  is clean (`good_backward_counts`).
-/
import CorgiProofs.HeapOps
import CorgiProofs.Optim

set_option linter.unusedSectionVars false

namespace Corgi
variable {S : Type} [Add S] [Mul S] [Neg S] [Sub S] [ScalarOps S] [BEq S]

theorem lookup_cons {α} (k' : String) (v : α) (rest : List (String × α)) (k : String) :
    lookup ((k', v) :: rest) k = if k' == k then some v else lookup rest k := by rfl

theorem insert_cons {α} (k' : String) (v' : α) (rest : List (String × α)) (k : String) (v : α) :
    insert ((k', v') :: rest) k v = if k' == k then (k, v) :: rest else (k', v') :: insert rest k v := by rfl

theorem lookup_mem {α} (l : List (String × α)) (k : String) (v : α) (h : lookup l k = some v) : ∃ k', (k', v) ∈ l := by
  induction l with
  | nil => cases h
  | cons p l ih =>
    obtain ⟨k', v'⟩ := p
    rw [lookup_cons] at h
    split at h
    · cases h; exact ⟨k', .head _⟩
    · obtain ⟨k'', hk⟩ := ih h; exact ⟨k'', .tail _ hk⟩

theorem mem_insert {α} (l : List (String × α)) (k : String) (v : α) (p : String × α) (h : p ∈ insert l k v) :
    p = (k, v) ∨ p ∈ l := by
  induction l with
  | nil => exact .inl (List.mem_singleton.mp h)
  | cons q l ih =>
    obtain ⟨k', v'⟩ := q
    rw [insert_cons] at h
    split at h
    · exact (List.mem_cons.mp h).imp_right (.tail _)
    · rcases List.mem_cons.mp h with h | h
      · exact .inr (h ▸ .head _)
      · exact (ih h).imp_right (.tail _)

theorem lookup_insert_ne {α} (k w : String) (v : α) (hne : w ≠ k) (l : List (String × α)) :
    lookup (insert l k v) w = lookup l w := by
  have hkw : ¬ (k == w) = true := fun h => hne (beq_iff_eq.mp h).symm
  induction l with
  | nil => exact if_neg hkw
  | cons p rest ih =>
    obtain ⟨k', x⟩ := p
    rw [insert_cons]
    split
    · next h => rw [lookup_cons, lookup_cons, beq_iff_eq.mp h, if_neg hkw, if_neg hkw]
    · rw [lookup_cons, lookup_cons, ih]

theorem mem_erase {α} (l : List (String × α)) (k : String) (p : String × α) (h : p ∈ erase l k) : p ∈ l := by
  simp only [erase, List.mem_filter] at h; exact h.1

structure RootsValid (σ : State S) : Prop where
  env : ∀ p ∈ σ.env, p.2.Valid σ
  layers : ∀ p ∈ σ.layers, ∀ h ∈ layerParams p.2, h.Valid σ
  models : ∀ p ∈ σ.models, ∀ h, p.2.output = some h → h.Valid σ

/-- the invariant of reachable states -/
structure Good (σ : State S) : Prop where
  heap : HeapInv σ
  roots : RootsValid σ

theorem valid_congr {σ σ' : State S} (hn : σ'.nodes.size = σ.nodes.size) (hb : σ'.bufs.size = σ.bufs.size) {h : Handle}
    (hv : h.Valid σ) : h.Valid σ' :=
  ⟨hn.symm ▸ hv.1, hb.symm ▸ hv.2⟩

theorem valid_flags {σ : State S} {h : Handle} (hv : h.Valid σ) (t k : Bool) :
    ({ h with tracked := t, keep := k } : Handle).Valid σ := hv

theorem Good.get {σ : State S} (g : Good σ) {v : String} {h : Handle} (hg : σ.get v = .ok h) : h.Valid σ := by
  unfold State.get at hg
  split at hg
  · next x hl => cases hg; exact (lookup_mem _ _ _ hl).elim fun _ hk => g.roots.env _ hk
  · cases hg

theorem Good.mapR_get {σ : State S} (g : Good σ) (vs : List String) :
    ∀ hs : List Handle, mapR σ.get vs = .ok hs → ∀ h ∈ hs, h.Valid σ := by
  induction vs with
  | nil => intro _ e; cases e; exact fun _ h => nomatch h
  | cons v vs ih =>
    intro _ e
    obtain ⟨y, hy, e⟩ := bindOk e
    obtain ⟨ys, hys, e⟩ := bindOk e
    cases e
    exact List.forall_mem_cons.mpr ⟨g.get hy, ih ys hys⟩

theorem rootsValid_mono {σ σ' : State S} (rv : RootsValid σ) (m : Mono σ σ') : RootsValid σ' :=
  ⟨fun p hp => m.valid (rv.env p (by rw [← m.env]; exact hp)),
   fun p hp h hh => m.valid (rv.layers p (by rw [← m.layers]; exact hp) h hh),
   fun p hp h hh => m.valid (rv.models p (by rw [← m.models]; exact hp) h hh)⟩

theorem Good.layer {σ : State S} (g : Good σ) {l : String} {lay : Layer} (hl : lookup σ.layers l = some lay) :
    ∀ h ∈ layerParams lay, h.Valid σ :=
  (lookup_mem _ _ _ hl).elim fun _ hk => g.roots.layers _ hk

/-- the invariant does not read the names: states with the same heap and the same (valid) roots agree -/
theorem Good.reroot {σ σ' : State S} (g : Good σ) (hn : σ'.nodes = σ.nodes) (hb : σ'.bufs = σ.bufs) (hc : σ'.cnt = σ.cnt)
    (hd : σ'.delta = σ.delta) (hg : σ'.grad.size = σ.grad.size)
    (env : ∀ p ∈ σ'.env, p.2.Valid σ) (layers : ∀ p ∈ σ'.layers, ∀ h ∈ layerParams p.2, h.Valid σ)
    (models : ∀ p ∈ σ'.models, ∀ h, p.2.output = some h → h.Valid σ) : Good σ' := by
  have v : ∀ {h : Handle}, h.Valid σ → h.Valid σ' := fun hv => by rw [Handle.Valid, hn, hb]; exact hv
  exact ⟨⟨by rw [hc, hd, hg, hn]; exact g.heap.sizes, by rw [hn, hb]; exact g.heap.older, by rw [hn]; exact g.heap.tags,
      by rw [hn]; exact g.heap.noop, by rw [hc, hd]; exact g.heap.clean⟩,
    fun p hp => v (env p hp), fun p hp h hh => v (layers p hp h hh), fun p hp h hh => v (models p hp h hh)⟩

theorem good_bind {σ : State S} (g : Good σ) (w : String) {h : Handle} (hv : h.Valid σ) : Good (σ.bind w h) :=
  g.reroot rfl rfl rfl rfl rfl
    (fun p hp => (mem_insert _ _ _ _ hp).elim (fun e => e ▸ hv) (g.roots.env p)) g.roots.layers g.roots.models

theorem good_erase {σ : State S} (g : Good σ) (v : String) : Good ({ σ with env := erase σ.env v } : State S) :=
  g.reroot rfl rfl rfl rfl rfl (fun p hp => g.roots.env p (mem_erase _ _ _ hp)) g.roots.layers g.roots.models

theorem good_setGrad {σ : State S} (g : Good σ) (n : Nat) (x : Option (Tensor S)) : Good (σ.setGrad n x) :=
  -- `setGrad` unfolded once, not once per field
  show Good { σ with grad := σ.grad.setIfInBounds n x } from
    g.reroot rfl rfl rfl rfl Array.size_setIfInBounds g.roots.env g.roots.layers g.roots.models

theorem good_insert_model {σ : State S} (g : Good σ) (m : String) (mr : ModelRec S)
    (h : ∀ x, mr.output = some x → x.Valid σ) : Good ({ σ with models := insert σ.models m mr } : State S) :=
  g.reroot rfl rfl rfl rfl rfl g.roots.env g.roots.layers
    fun p hp => (mem_insert _ _ _ _ hp).elim (fun e => e ▸ h) (g.roots.models p)

theorem good_insert_layer {σ : State S} (g : Good σ) (l : String) (lay : Layer)
    (h : ∀ x ∈ layerParams lay, x.Valid σ) : Good ({ σ with layers := insert σ.layers l lay } : State S) :=
  g.reroot rfl rfl rfl rfl rfl g.roots.env
    (fun p hp => (mem_insert _ _ _ _ hp).elim (fun e => e ▸ h) (g.roots.layers p)) g.roots.models

theorem Grows.good {σ σ' : State S} {V Q : Prop} (h : Grows σ V σ' Q) (g : Good σ) (v : V) : Good σ' ∧ Q :=
  have a := h.inv g.heap v; ⟨⟨a.1, rootsValid_mono g.roots h.mono⟩, a.2⟩

/-- **One step of the interpreter**: the old buffers stay as they are (C08), and the invariant of reachable
    states is kept. -/
structure Step (σ σ' : State S) : Prop where
  ext : BufExt σ σ'
  good : Good σ → Good σ'

theorem Step.refl (σ : State S) : Step σ σ := ⟨.refl σ, id⟩

theorem Step.trans {a b c : State S} (h1 : Step a b) (h2 : Step b c) : Step a c :=
  ⟨h1.ext.trans h2.ext, fun g => h2.good (h1.good g)⟩

theorem Step.same {σ σ' : State S} (hb : σ'.bufs = σ.bufs) (h : Good σ → Good σ') : Step σ σ' := ⟨.of_eq hb, h⟩

theorem bindShow_step {σ : State S} {V : Prop} {b : Bool} {r : R (State S × Handle)} (w : String)
    (h : OpSpec σ V b r) (hv : Good σ → V) : Post (bindShow w r) fun q => Step σ q.1 :=
  .bind fun p e => .pure ⟨(h p e).ext.trans (.of_eq rfl), fun g =>
    have a := (h p e).good g (hv g); good_bind a.1 w a.2⟩

theorem unary_step {σ : State S} {a w : String} {t : Handle → Bool} {op : Handle → R (State S × Handle)}
    (h : ∀ x, OpSpec σ (x.Valid σ) (t x) (op x)) :
    Post (σ.get a >>= fun x => bindShow w (op x)) fun q => Step σ q.1 :=
  .bind fun x hx => bindShow_step _ (h x) fun g => g.get hx

theorem binary_step {σ : State S} {a b w : String} {t : Handle → Handle → Bool}
    {op : Handle → Handle → R (State S × Handle)}
    (h : ∀ x y, OpSpec σ (x.Valid σ ∧ y.Valid σ) (t x y) (op x y)) :
    Post (σ.get a >>= fun x => σ.get b >>= fun y => bindShow w (op x y)) fun q => Step σ q.1 :=
  .bind fun x hx => .bind fun y hy => bindShow_step _ (h x y) fun g => ⟨g.get hx, g.get hy⟩

theorem setFlags_step {σ σ' : State S} {v : String} {tr keep : Option Bool} {h : Handle}
    (e : setFlags σ v tr keep = .ok (σ', h)) : Step σ σ' := by
  obtain ⟨x, hx, e⟩ := bindOk e
  cases e
  exact .same rfl fun g => good_bind g v (valid_flags (g.get hx) _ _)

theorem good_backward {σ σ' : State S} (g : Good σ) {h : Handle} (hv : h.Valid σ) (seed : Option (Tensor S))
    (hok : σ.backward h seed = .ok σ') : Good σ' :=
  have a := heapInv_backward σ σ' g.heap h hv.1 seed hok; ⟨a.1, rootsValid_mono g.roots a.2⟩

theorem backward_step {σ σ' : State S} {h : Handle} {seed : Option (Tensor S)} (hv : Good σ → h.Valid σ)
    (hok : σ.backward h seed = .ok σ') : Step σ σ' :=
  ⟨.of_eq (bufs_backward hok), fun g => good_backward g (hv g) seed hok⟩

/-- `bwd`: the cost, then a pass started on it -/
theorem op_backward_step {σ σ1 σ2 : State S} {V : Prop} {b : Bool} {err : Handle} {seed : Option (Tensor S)}
    (a : Allocs σ V b (σ1, err)) (hv : Good σ → V) (h2 : σ1.backward err seed = .ok σ2) : Step σ σ2 :=
  ⟨a.ext.trans (.of_eq (bufs_backward h2)), fun g =>
    have b := a.good g (hv g); good_backward b.1 b.2 seed h2⟩

/-! ### the optimizer: gathering only clears gradient cells, draining only allocates leaves -/

theorem gdDrain_grows (ps : List Handle) : ∀ (σ : State S) (fs : List Bool) (vals : List S),
    Post (gdDrain σ ps fs vals) fun r => Grows σ (∀ p ∈ ps, p.Valid σ) r.1 (∀ h ∈ r.2, h.Valid r.1) := by
  induction ps with
  | nil => exact fun σ _ _ => .pure (.same σ fun _ _ h => nomatch h)
  | cons p ps ih =>
    intro σ fs vals
    rcases fs with _ | ⟨_ | _, fs⟩
    · exact .pure (.same σ fun _ _ h => nomatch h)
    · rw [gdDrain_unfrozen]
      refine .ite .throw <| .bind fun t _ => .bind fun r hr => ?_
      have a := hLeaf_spec σ t
      have k := ih _ fs _ r hr
      exact .pure ⟨a.ext.trans k.ext, a.mono.trans k.mono, fun hi hp =>
        have b := a.inv hi trivial
        have q := k.inv b.1 fun q hq => a.mono.valid (hp q (.tail _ hq))
        ⟨q.1, List.forall_mem_cons.mpr ⟨k.mono.valid b.2, q.2⟩⟩⟩
    · rw [gdDrain_frozen]
      refine .bind fun r hr => ?_
      have k := ih σ fs vals r hr
      exact .pure ⟨k.ext, k.mono, fun hi hp => have q := k.inv hi (List.forall_mem_cons.mp hp).2
        ⟨q.1, List.forall_mem_cons.mpr ⟨k.mono.valid (hp p (.head _)), q.2⟩⟩⟩

theorem gdUpdate_grows {σ σ' : State S} {lr : S} {ps hs : List Handle} (h : gdUpdate σ lr ps = .ok (σ', hs)) :
    Grows σ (∀ p ∈ ps, p.Valid σ) σ' (∀ h ∈ hs, h.Valid σ') := by
  obtain ⟨e, sz⟩ := gdGather_eq ps σ
  have mg : Mono σ (gdGather σ ps).1 := by rw [e]; exact ⟨Nat.le_refl _, Nat.le_refl _, rfl, rfl, rfl⟩
  have gather : Grows σ (∀ p ∈ ps, p.Valid σ) (gdGather σ ps).1 (∀ p ∈ ps, p.Valid (gdGather σ ps).1) :=
    ⟨.of_eq (congrArg State.bufs e :), mg, fun hi hp => ⟨by
      rw [e]; exact ⟨⟨hi.sizes.1, hi.sizes.2.1, sz.trans hi.sizes.2.2⟩, hi.older, hi.tags, hi.noop, hi.clean⟩,
      fun p hq => mg.valid (hp p hq)⟩⟩
  exact gather.trans id (gdDrain_grows ps _ _ _ (σ', hs) h) fun _ q _ => q

theorem fold_bind_step (l : List (String × Handle)) : ∀ σ : State S,
    (l.foldl (fun (s : State S) p => s.bind p.1 p.2) σ).bufs = σ.bufs ∧
    (Good σ → (∀ p ∈ l, p.2.Valid σ) → Good (l.foldl (fun (s : State S) p => s.bind p.1 p.2) σ)) := by
  induction l with
  | nil => exact fun _ => ⟨rfl, fun g _ => g⟩
  | cons p l ih =>
    exact fun σ => ⟨(ih _).1, fun g hl => (ih _).2 (good_bind g p.1 (hl p (.head _))) fun q hq => hl q (.tail _ hq)⟩

theorem layerParams_set (l : Layer) (a b : Handle) : layerParams (setLayerParams l [a, b]) = [a, b] := by
  cases l <;> rfl

theorem putParams_cons (σ : State S) (l : String) (ls : List String) (a b : Handle) (rest : List Handle) :
    putParams σ (l :: ls) (a :: b :: rest) = match lookup σ.layers l with
      | some lay => putParams { σ with layers := insert σ.layers l (setLayerParams lay [a, b]) } ls rest
      | none => putParams σ ls rest := rfl

theorem putParams_step (ls : List String) : ∀ (σ : State S) (hs : List Handle),
    (putParams σ ls hs).bufs = σ.bufs ∧ (Good σ → (∀ h ∈ hs, h.Valid σ) → Good (putParams σ ls hs)) := by
  induction ls with
  | nil => exact fun σ hs => ⟨rfl, fun g _ => g⟩
  | cons l ls ih =>
    intro σ hs
    match hs with
    | [] | [_] => exact ⟨rfl, fun g _ => g⟩
    | a :: b :: rest =>
      rw [putParams_cons]
      split
      · next lay _ =>
        exact ⟨(ih _ rest).1, fun g hv => (ih _ rest).2
          (good_insert_layer g l _ (by rw [layerParams_set]; exact valid2 (hv _ (.head _)) (hv _ (.tail _ (.head _)))))
          fun h hh => hv h (.tail _ (.tail _ hh))⟩
      · exact ⟨(ih σ rest).1, fun g hv => (ih σ rest).2 g fun h hh => hv h (.tail _ (.tail _ hh))⟩

/-- the forward pass of a model: a fold of layer forwards -/
theorem foldlM_layers_grows (layers : List String) : ∀ (σ : State S) (h : Handle) (σ' : State S) (h' : Handle),
    layers.foldlM (fun (p : State S × Handle) l =>
        match lookup p.1.layers l with
        | some lay => layerForward p.1 lay p.2
        | none => throw Panic.modelGap) (σ, h) = .ok (σ', h') →
    BufExt σ σ' ∧ (Good σ → h.Valid σ → Good σ' ∧ h'.Valid σ') := by
  induction layers with
  | nil => intro σ h σ' h' e; cases e; exact ⟨.refl σ, fun g hv => ⟨g, hv⟩⟩
  | cons l ls ih =>
    intro σ h σ' h' e
    obtain ⟨⟨σ1, h1⟩, hf, e⟩ := bindOk e
    dsimp only at hf
    split at hf
    · next lay hl =>
      have a := layerForward_spec σ lay h (σ1, h1) hf
      obtain ⟨x, k⟩ := ih σ1 h1 σ' h' e
      exact ⟨a.ext.trans x, fun g hv => have b := a.good g ⟨hv, g.layer hl⟩; k b.1 b.2⟩
    · cases hf

theorem modelParams_valid (σ : State S) (g : Good σ) (names : List String) : ∀ h ∈ modelParams σ names, h.Valid σ := by
  intro h hh
  obtain ⟨l, _, hl⟩ := List.mem_flatMap.mp hh
  split at hl
  · next lay hk => exact g.layer hk h hl
  · cases hl

/-- the commands `gdupdate` and `gdstep` -/
theorem gdUpdate_bind_step {σ σ1 : State S} {lr : S} {vs : List String} {hs hs' : List Handle}
    (hg : mapR σ.get vs = .ok hs) (hu : gdUpdate σ lr hs = .ok (σ1, hs')) :
    Step σ ((vs.zip hs').foldl (fun (s : State S) p => s.bind p.1 p.2) σ1) := by
  have k := gdUpdate_grows hu
  have b := fold_bind_step (vs.zip hs') σ1
  exact ⟨k.ext.trans (.of_eq b.1), fun g =>
    have a := k.good g (g.mapR_get vs hs hg)
    b.2 a.1 fun p hp => a.2 _ (List.of_mem_zip hp).2⟩

theorem leafLayer_step {σ : State S} (wt bt : Tensor S) (l : String) (mk : Handle → Handle → Layer)
    (hmk : ∀ a b, layerParams (mk a b) = [a, b]) :
    let tr := fun (h : Handle) => ({ h with tracked := true, keep := true } : Handle)
    Step σ { (hLeaf (hLeaf σ wt).1 bt).1 with
      layers := insert (hLeaf (hLeaf σ wt).1 bt).1.layers l (mk (tr (hLeaf σ wt).2) (tr (hLeaf (hLeaf σ wt).1 bt).2)) } := by
  have a := hLeaf_spec σ wt
  have b := hLeaf_spec (hLeaf σ wt).1 bt
  refine ⟨a.ext.trans (b.ext.trans (.of_eq rfl)), fun g => ?_⟩
  have a' := a.good g trivial
  have b' := b.good a'.1 trivial
  refine good_insert_layer b'.1 l _ ?_
  rw [hmk]
  exact valid2 (b.mono.valid a'.2) b'.2

theorem exec_step (σ : State S) (c : Cmd S) : Post (exec σ c) fun q => Step σ q.1 := by
  have same : ∀ {o : Out S}, Post (pure (σ, o)) fun q => Step σ q.1 := .pure (.refl σ)
  -- Matching a goal against `exec σ (.cmd ..)` unfolds the 66-way match (~20k heartbeats a time).  `apply` does it
  -- once and leaves the unfolded body as the new goal; `exact .bind fun ..` on the folded goal would do it three
  -- times (expected type pushed in, checked on the way out, checked by `exact`).  Hence the first step by `apply`.
  cases c with
  | new v dims vals | flat v vals | zeros v dims =>
    apply Post.bind; intro t _
    exact bindShow_step _ (.pure (hLeaf_spec σ t)) fun _ => trivial
  | nest v parts =>
    apply Post.bind; intro _ _
    exact .bind fun t _ => bindShow_step _ (.pure (hLeaf_spec σ t)) fun _ => trivial
  | tracked v | untracked v | start v | stop v =>
    apply Post.bind; intro (_, _) e
    exact .pure (setFlags_step e)
  | clone w v =>
    apply Post.bind; intro _ hh
    exact .pure (.same rfl fun g => good_bind g w (g.get hh))
  | drop v =>
    apply Post.bind; intro _ _
    exact .pure (.same rfl fun g => good_erase g v)
  | move w v =>
    apply Post.bind; intro _ hh
    exact .pure (.same rfl fun g => good_bind (good_erase g v) w (g.get hh))
  | add w a b | mul w a b | div w a b => apply binary_step; exact fun x y => hEwise_spec _ _ σ x y rfl
  | sub w a b => apply binary_step (hSub_spec σ)
  | neg w a | ln w a | exp w a | recip w a | relu w a | sigmoid w a | scale w a s | powf w a e =>
    apply unary_step; exact fun x => hUnary_spec _ _ σ x tagOK_un
  | softmax w a => apply unary_step (hSoftmax_spec σ)
  | sum w a k => apply unary_step; exact fun x => hSum_spec σ x k
  | reshape w a dims => apply unary_step; exact fun x => hReshape_spec σ x dims
  | axpy w s a b => apply binary_step (hAxpy_spec σ s)
  | matmul w a ta b tb c =>
    -- the optional operand is looked up first
    cases c with
    | none =>
      apply Post.let_pure
      exact .bind fun x hx => .bind fun y hy =>
        bindShow_step _ (hMatmul_spec σ x ta y tb none) fun g => ⟨g.get hx, g.get hy, fun _ e => nomatch e⟩
    | some c =>
      apply Post.bind; intro z hz
      exact .let_pure <| .bind fun x hx => .bind fun y hy =>
        bindShow_step _ (hMatmul_spec σ x ta y tb (some z)) fun g =>
          ⟨g.get hx, g.get hy, fun _ e => Option.some.inj e ▸ g.get hz⟩
  | conv w a f sr sc => apply binary_step; exact fun x y => hConv_spec σ x y sr sc
  | cop kind w args =>
    apply Post.bind; intro hs hhs
    exact bindShow_step _ (hCustom_spec σ kind w hs) fun g => g.mapR_get args hs hhs
  | backward v seed =>
    apply Post.bind; intro h hh
    cases seed with
    | none => exact .let_pure <| .bind fun _ h1 => .pure (backward_step (fun g => g.get hh) h1)
    | some s => exact .bind fun _ _ => .let_pure <| .bind fun _ h1 => .pure (backward_step (fun g => g.get hh) h1)
  | backwardc v seed =>
    apply Post.bind; intro h hh
    exact .bind fun _ _ => .bind fun _ h1 => .pure (backward_step (fun g => g.get hh) h1)
  | grad v => apply Post.bind; intro _ _; split <;> exact same
  | takegrad w v =>
    apply Post.bind; intro _ _
    split
    · exact bindShow_step _ (.pure (hLeaf_spec σ _)) fun _ => trivial
    · exact .throw
  | cleargrad v =>
    apply Post.bind; intro _ _
    exact .pure (.same rfl fun g => good_setGrad g _ _)
  | setgrad v w =>
    apply Post.bind; intro _ _
    exact .bind fun _ _ => .pure (.same rfl fun g => good_setGrad g _ _)
  | sumall a | «show» v | probe v | flags v => apply Post.bind; intro _ _; exact same
  | idx v i | idxflat v i | eq a b | same a b | samegrad a b | sumgrad c parts | ifgt v c n =>
    apply Post.bind; intro _ _
    exact .bind fun _ _ => same
  | lin c al a be b => apply Post.bind; intro _ _; exact .bind fun _ _ => .bind fun _ _ => same
  | convat a f sr sc i => apply Post.bind; intro _ _; exact .bind fun _ _ => .ite same .throw
  | matmulat a ta b tb c i =>
    apply Post.bind; intro _ _
    cases c with
    | none => exact .bind fun _ _ => .let_pure <| .ite same .throw
    | some c => exact .bind fun _ _ => .bind fun _ _ => .let_pure <| .ite same .throw
  | probekid v i =>
    apply Post.bind; intro _ _
    split
    · split <;> exact same
    · exact same
  | own v => apply Post.bind; intro _ _; exact .ite (.pure (.same rfl fun g => good_erase g v)) .throw
  | log | snapshot => exact same
  | gdupdate lr vs =>
    apply Post.bind; intro _ hhs
    exact .bind fun (_, _) hr => .pure (gdUpdate_bind_step hhs hr)
  | gd gname lr | model m cost lr layers =>
    apply Post.pure
    exact .same rfl fun g => good_insert_model g _ _ fun _ e => nomatch e
  | gdstep gname vs =>
    show Post (match lookup σ.models _ with | some mr => _ | none => _) _
    split
    · exact .bind fun _ hhs => .bind fun (_, _) hr => .pure (gdUpdate_bind_step hhs hr)
    · exact .throw
  | cost w c o t =>
    cases c
    · apply binary_step (hMse_spec σ)
    · apply binary_step (hXent_spec σ)
  | dense l inp out act w b =>
    apply Post.bind; intro wt _
    exact .bind fun bt _ => .pure (leafLayer_step wt bt l (fun a b => .dense a b act) fun _ _ => rfl)
  | convl l f d r c sr sc act w b =>
    apply Post.bind; intro wt _
    exact .bind fun bt _ => .pure (leafLayer_step wt bt l (fun a b => .conv a b sr sc act) fun _ _ => rfl)
  | lflag l which tr =>
    show Post (match lookup σ.layers _ with | some lay => _ | none => _) _
    split
    · next lay hl =>
      split
      · next a b hab =>
        refine .pure (.same rfl fun g => good_insert_layer g l _ ?_)
        have hv := g.layer hl
        rw [hab] at hv
        rw [layerParams_set]
        exact valid2 (by split <;> exact hv a (.head _)) (by split <;> exact hv b (.tail _ (.head _)))
      · exact .throw
    · exact .throw
  | lfwd w l a =>
    show Post (match lookup σ.layers _ with | some lay => _ | none => _) _
    split
    · next lay hl => exact .bind fun x hx => bindShow_step _ (layerForward_spec σ lay x) fun g => ⟨g.get hx, g.layer hl⟩
    · exact .throw
  | fwd w m a =>
    show Post (match lookup σ.models _ with | some mr => _ | none => _) _
    split
    · next mr _ =>
      exact .bind fun x hx => .bind fun (σ1, out) hr => by
        obtain ⟨e, k⟩ := foldlM_layers_grows _ σ x σ1 out hr
        exact .pure ⟨e.trans (.of_eq rfl), fun g => have a := k g (g.get hx)
          good_bind (good_insert_model a.1 m { mr with output := some out } fun _ hz => Option.some.inj hz ▸ a.2) w a.2⟩
    · exact .throw
  | bwd m t =>
    show Post (match lookup σ.models _ with | some mr => _ | none => _) _
    split
    · next mr hm =>
      split
      · next out ho =>
        have hvo : Good σ → out.Valid σ := fun g => (lookup_mem _ _ _ hm).elim fun _ hk => g.roots.models _ hk out ho
        exact .bind fun x hx => by
          split
          · exact .bind fun (σ1, err) hr => .bind fun σ2 h2 =>
              .pure (op_backward_step (hMse_spec σ out x _ hr) (fun g => ⟨hvo g, g.get hx⟩) h2)
          · exact .bind fun (σ1, err) hr => .bind fun σ2 h2 =>
              .pure (op_backward_step (hXent_spec σ out x _ hr) (fun g => ⟨hvo g, g.get hx⟩) h2)
      · exact .throw
    · exact .throw
  | update m =>
    show Post (match lookup σ.models _ with | some mr => _ | none => _) _
    split
    · next mr hm =>
      exact .bind fun (σ1, ps') hr => by
        have k := gdUpdate_grows hr
        have pp := putParams_step mr.layers σ1 ps'
        exact .pure ⟨k.ext.trans (.of_eq pp.1), fun g => have a := k.good g (modelParams_valid σ g mr.layers)
          pp.2 a.1 a.2⟩
    · exact .throw
  | params m =>
    show Post (match lookup σ.models _ with | some mr => _ | none => _) _
    split
    · exact same
    · split
      · exact same
      · exact .throw

def ResGood (r : R (State S × Out S)) : Prop := ∀ σ' o, r = .ok (σ', o) → Good σ'

theorem exec_bufExt (σ : State S) (c : Cmd S) : ResExt σ (exec σ c) := fun σ' o e => (exec_step σ c (σ', o) e).ext

theorem exec_good (σ : State S) (g : Good σ) (c : Cmd S) : ResGood (exec σ c) :=
  fun σ' o e => (exec_step σ c (σ', o) e).good g

/-- a panic leaves the state as it was -/
theorem step_step (σ : State S) (c : Cmd S) : Step σ (step σ c).1 := by
  unfold step
  split
  · next r h => exact exec_step σ c r h
  · exact .refl σ

theorem good_init : Good ({} : State S) :=
  ⟨⟨⟨rfl, rfl, rfl⟩, fun _ _ h => (nomatch h), fun _ _ _ h => (nomatch h), fun _ _ h => (nomatch h),
    ⟨fun _ => rfl, fun _ => rfl⟩⟩,
   ⟨fun _ hp => (nomatch hp), fun _ hp => (nomatch hp), fun _ hp => (nomatch hp)⟩⟩

/-- the state after a history of commands from the empty program -/
def run (cs : List (Cmd S)) (σ : State S := {}) : State S := cs.foldl (fun s c => (step s c).1) σ

theorem run_step (cs : List (Cmd S)) : ∀ σ : State S, Step σ (run cs σ) := by
  induction cs with
  | nil => exact .refl
  | cons c cs ih => exact fun σ => (step_step σ c).trans (ih _)

theorem run_bufExt (cs : List (Cmd S)) : ∀ σ : State S, BufExt σ (cs.foldl (fun s c => (step s c).1) σ) :=
  fun σ => (run_step cs σ).ext

theorem reachable_good (cs : List (Cmd S)) : Good (run cs ({} : State S)) := (run_step cs _).good good_init

def Reachable (σ : State S) : Prop := ∃ cs : List (Cmd S), σ = run cs ({} : State S)

theorem Reachable.good {σ : State S} (h : Reachable σ) : Good σ := by
  obtain ⟨cs, rfl⟩ := h; exact reachable_good cs

theorem Reachable.step {σ : State S} (h : Reachable σ) (c : Cmd S) : Reachable (step σ c).1 := by
  obtain ⟨cs, rfl⟩ := h
  exact ⟨cs ++ [c], (List.foldl_append (f := fun s c => (Corgi.step s c).1) (l := cs) (l' := [c])).symm⟩

theorem good_backward_counts {σ σ' : State S} (g : Good σ) {h : Handle} (hv : h.Valid σ)
    (seed : Option (Tensor S)) (hok : σ.backward h seed = .ok σ') :
    ∃ e : EState S, Corgi.backward σ.graph (σ.nodes.size + 1) h.node h.dims h.keep seed σ.estate = .ok e ∧
      σ' = σ.withEState e ∧ σ.graph.WF ∧ σ.graph.Lawful ∧
      e.Clean ∧ (logN e).Nodup ∧ (∀ m, m ∈ logN e ↔ Reach σ.graph h.node m) ∧ LogOrder σ.graph h.node (logN e) :=
  have ⟨e, hb, he⟩ := State.backward_ok hok
  have hwf := graph_wf σ g.heap
  have hl := graph_lawful σ g.heap
  ⟨e, hb, he, hwf, hl, backward_counts σ.graph hwf hl (σ.nodes.size + 1) h.node (Nat.lt_succ_of_lt hv.1)
    h.dims h.keep seed σ.estate e (estate_clean σ g.heap) rfl hb⟩

/-- the visit log the harness reads back (`lastLog`) is the engine's log, oldest entry first -/
theorem lastLog_nodes (σ : State S) (e : EState S) :
    (σ.withEState e).lastLog.map (·.1) = (logN e).reverse := by
  simp [State.withEState, logN, List.map_reverse]

end Corgi
