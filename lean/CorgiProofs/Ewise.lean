/-
  CorgiProofs.Ewise — element-wise operations equal the broadcasting specification (C04).  The code runs
  `sliced_op` with one trailing dimension: per leading multi-index one output row of `n` values, entry `i` computed
  from entry `i % sl` of the operand's row, whose length `sl` is `1` or `n`.  On two tensors of identical
  dimensions the result is pointwise (`ewise_zipWith`; `add_same` is the instance the engine relies on when it
  merges deltas and gradients).
-/
import CorgiProofs.Sliced

namespace Corgi

section
variable {S : Type} [ScalarOps S]

theorem zipWith_eq_range_map (f : S → S → S) (a b : List S) (L : Nat) (ha : a.length = L) (hb : b.length = L) :
    List.zipWith f a b = (List.range L).map (fun m => f (a.getD m zero) (b.getD m zero)) := by
  rw [← zipWith_map_range, ← ha, map_range_getD, ha, ← hb, map_range_getD]

theorem ewiseOp_ok (f : S → S → S) (sl ol n : Nat) (xa xb : List S) (hsl : 0 < sl) (hol : 0 < ol)
    (ha : xa.length = sl) (hb : xb.length = ol) :
    ewiseOp f sl ol n [xa, xb] = .ok ((List.range n).map (fun i => f (xa.getD (i % sl) zero) (xb.getD (i % ol) zero))) := by
  refine tabulateM_ok _ _ _ fun i _ => ?_
  have h1 : i % sl < xa.length := by rw [ha]; exact Nat.mod_lt _ hsl
  have h2 : i % ol < xb.length := by rw [hb]; exact Nat.mod_lt _ hol
  simp [getR, List.getElem?_eq_getElem h1, List.getElem?_eq_getElem h2, List.getD_eq_getElem?_getD]

theorem ewise_operand (aL DL : List Nat) (sl n q i : Nat) (av : List S)
    (hfit : Fits (aL ++ [sl]) (DL ++ [n]) = true) (hsl : 1 ≤ sl) (hq : q < prod DL) (hi : i < n) :
    (opBlock 1 DL ⟨aL ++ [sl], av⟩ q).getD (i % sl) zero
      = (⟨aL ++ [sl], av⟩ : Tensor S).get (proj (aL ++ [sl]) (unflatten (DL ++ [n]) (q * n + i))) := by
  simp only [Fits_snoc, Bool.and_eq_true, Bool.or_eq_true, beq_iff_eq] at hfit
  have hle := Fits_length_le hfit.2
  have hlast : (if sl == 1 then 0 else i) = i % sl := by
    rcases hfit.1 with rfl | rfl
    · exact (Nat.mod_one i).symm
    · rw [Nat.mod_eq_of_lt hi, proj_lt sl i hi]
  rw [unflatten_append_last DL n q i hi hq, proj_append_last _ _ _ _ (by rw [unflatten_length]; exact hle), hlast]
  have h := opBlock_get 1 DL aL [sl] [i % sl] av q (by rw [List.length_append]; rfl) hle (inRange1 (Nat.mod_lt i hsl))
  rwa [rowMajor1] at h

theorem ewise_operand_own (L : List Nat) (sl n q i : Nat) (av : List S) (hfit : Fits (L ++ [sl]) (L ++ [n]) = true)
    (hposL : ∀ d ∈ L, 1 ≤ d) (hsl : 1 ≤ sl) (hq : q < prod L) (hi : i < n) :
    (⟨L ++ [sl], av⟩ : Tensor S).get (proj (L ++ [sl]) (unflatten (L ++ [n]) (q * n + i)))
      = av.getD (q * sl + i % sl) zero := by
  rw [← ewise_operand L L sl n q i av hfit hsl hq hi,
    opBlock_getD _ _ _ _ _ (by simpa [prod1] using Nat.mod_lt i hsl)]
  simp only [List.length_append, List.length_singleton, Nat.add_sub_cancel, List.take_left', List.drop_left']
  rw [projOffset_unflatten hposL hq, prod1]

/-- for every output shape that both operands fit, not only their `bdims` -/
theorem ewise_core (f : S → S → S) (aL bL DL : List Nat) (sl ol n : Nat) (av bv : List S)
    (hposD : ∀ d ∈ DL ++ [n], 1 ≤ d)
    (hwa : (⟨aL ++ [sl], av⟩ : Tensor S).WF) (hwb : (⟨bL ++ [ol], bv⟩ : Tensor S).WF)
    (hfa : Fits (aL ++ [sl]) (DL ++ [n]) = true) (hfb : Fits (bL ++ [ol]) (DL ++ [n]) = true) :
    slicedOp [⟨aL ++ [sl], av⟩, ⟨bL ++ [ol], bv⟩] (ewiseOp f sl ol n) (DL ++ [n]) (DL ++ [n]) 1 0
      = .ok (specEwise' f ⟨aL ++ [sl], av⟩ ⟨bL ++ [ol], bv⟩ (DL ++ [n])) := by
  have hposDL : ∀ d ∈ DL, 1 ≤ d := fun d hd => hposD d (List.mem_append_left _ hd)
  have hsl : 1 ≤ sl := hwa.1 sl (List.mem_append_right _ List.mem_cons_self)
  have hol : 1 ≤ ol := hwb.1 ol (List.mem_append_right _ List.mem_cons_self)
  have hfaL : Fits aL DL = true := by rw [Fits_snoc, Bool.and_eq_true] at hfa; exact hfa.2
  have hfbL : Fits bL DL = true := by rw [Fits_snoc, Bool.and_eq_true] at hfb; exact hfb.2
  have tk : ∀ (L : List Nat) (s : Nat), (L ++ [s]).take ((L ++ [s]).length - 1) = L := fun L s =>
    List.take_left' (by rw [List.length_append]; rfl)
  let g : Nat → S := fun m =>
    f ((⟨aL ++ [sl], av⟩ : Tensor S).get (proj (aL ++ [sl]) (unflatten (DL ++ [n]) m)))
      ((⟨bL ++ [ol], bv⟩ : Tensor S).get (proj (bL ++ [ol]) (unflatten (DL ++ [n]) m)))
  rw [slicedOp_of_fits _ _ (DL ++ [n]) DL [n] (DL ++ [n]) 1 0 (fun q => (List.range n).map fun i => g (q * n + i))
    (tk DL n) (forall_mem2 ⟨hwa.2, (tk aL sl).symm ▸ hfaL⟩ ⟨hwb.2, (tk bL ol).symm ▸ hfbL⟩) hposDL
    (fun d hd => List.mem_singleton.mp hd ▸ hposD n (List.mem_append_right _ List.mem_cons_self)) rfl,
    flatten_range_blocks g, ← prod_snoc]
  · rfl
  · intro q hq
    refine ⟨?_, by rw [List.length_map, List.length_range, prod1]⟩
    simp only [List.map_cons, List.map_nil]
    rw [ewiseOp_ok f sl ol n _ _ hsl hol
      ((opBlock_length 1 DL aL [sl] av q (by rw [List.length_append]; rfl) hwa.2 hfaL hposDL hq).trans (prod1 sl))
      ((opBlock_length 1 DL bL [ol] bv q (by rw [List.length_append]; rfl) hwb.2 hfbL hposDL hq).trans (prod1 ol))]
    refine congrArg _ (List.map_congr_left fun i hi => ?_)
    have hi' : i < n := List.mem_range.mp hi
    rw [ewise_operand aL DL sl n q i av hfa hsl hq hi', ewise_operand bL DL ol n q i bv hfb hol hq hi']

end

variable {S : Type} [Add S] [Mul S] [Neg S] [Sub S] [ScalarOps S]

theorem lastDim_snoc (L : List Nat) (x : Nat) : lastDim (L ++ [x]) = .ok x :=
  dimFromEnd_append L [x] 1 (by decide) (Nat.le_refl 1)

/-- C04, the element formula -/
theorem ewise_spec (f : S → S → S) (a b : Tensor S) (hwa : a.WF) (hwb : b.WF)
    (hna : a.dims ≠ []) (hnb : b.dims ≠ []) (hc : Compat a.dims b.dims = true) :
    ewise f a b = .ok (specEwise f a b) := by
  obtain ⟨ad, av⟩ := a
  obtain ⟨bd, bv⟩ := b
  obtain ⟨aL, sl, rfl⟩ := split_last ad hna
  obtain ⟨bL, ol, rfl⟩ := split_last bd hnb
  obtain ⟨DL, n, hDe⟩ := split_last _ (bdims_ne_nil _ (bL ++ [ol]) hna)
  have hfa := Fits_bdims_left _ _ hwa.1 hc
  have hfb := Fits_bdims_right _ _ hwb.1 hc
  have hDpos := bdims_pos _ _ hwa.1 hwb.1
  rw [hDe] at hfa hfb hDpos
  simp only [ewise, ewiseDims_spec, hc, if_true, hDe, lastDim_snoc, ok_bind, specEwise]
  exact ewise_core f aL bL DL sl ol n av bv hDpos hwa hwb hfa hfb

/-- the broadcast dimensions are the common dimensions, and every index projects onto itself -/
theorem ewise_zipWith (f : S → S → S) (d : List Nat) (hne : d ≠ []) (hpos : ∀ x ∈ d, 1 ≤ x) (x y : Tensor S)
    (hx : Shaped d x) (hy : Shaped d y) : ewise f x y = .ok ⟨x.dims, List.zipWith f x.vals y.vals⟩ := by
  have hwx : x.WF := ⟨by rw [hx.1]; exact hpos, by rw [hx.1]; exact hx.2.symm⟩
  have hwy : y.WF := ⟨by rw [hy.1]; exact hpos, by rw [hy.1]; exact hy.2.symm⟩
  obtain ⟨hcd, hbd⟩ := Fits_absorb hpos (Fits_refl d)
  have hc : Compat x.dims y.dims = true := by rw [hx.1, hy.1]; exact hcd
  rw [ewise_spec _ x y hwx hwy (by rw [hx.1]; exact hne) (by rw [hy.1]; exact hne) hc]
  simp only [specEwise, specEwise', Tensor.ofFn, hx.1, hy.1, hbd]
  rw [zipWith_eq_range_map _ x.vals y.vals (prod d) hx.2 hy.2]
  refine congrArg (fun v => Except.ok (Tensor.mk d v)) (List.map_congr_left fun m hm => ?_)
  have hm' : m < prod d := List.mem_range.mp hm
  simp only [Tensor.get, hx.1, hy.1, proj_unflatten hpos hm', rowMajor_unflatten hm']

variable [BEq S]

theorem add_same (d : List Nat) (hne : d ≠ []) (hpos : ∀ x ∈ d, 1 ≤ x) (x y : Tensor S)
    (hx : Shaped d x) (hy : Shaped d y) : add x y = .ok (tadd x y) :=
  ewise_zipWith _ d hne hpos x y hx hy

end Corgi
