/-
  What the closures of the two convolution stages compute, in closed form: `expand_conv`'s closure transposes every
  image back; `unroll_blocks`' closure (`roll_blocks`, accumulating) scatters every block of the delta, with addition,
  onto an image of zeros, at the positions `unroll_blocks` read from.  That they are linear (LinearConv) and that they
  are the transposes of the forward stages (AdjointConv) both start from here.
-/
import CorgiProofs.Conv

set_option linter.unusedSectionVars false
set_option linter.unusedVariables false

namespace Corgi
variable {S : Type} [Add S] [Mul S] [Neg S] [Sub S] [ScalarOps S] [BEq S]

/-- the buffer `expand_conv`'s closure produces -/
def expandBackBuf (nImg stride filters : Nat) (xv : List S) : List S :=
  (List.range (nImg * (stride * filters))).map (fun o =>
    xv.getD (o / (stride * filters) * (stride * filters) + ((o % (stride * filters)) % filters) * stride
      + (o % (stride * filters)) / filters) zero)

/-- `expand_conv`'s closure transposes every image `[filters, windows]` back to `[windows, filters]`; only the
    constructor can still refuse (a zero dimension) -/
theorem expandConvBack_eq (x : Tensor S) (B : List Nat) (w f : Nat) (hl : x.vals.length = prod B * (w * f)) :
    expandConvBack x (B ++ [w, f]) = Tensor.mk? (B ++ [w, f]) (expandBackBuf (prod B) w f x.vals) := by
  unfold expandConvBack
  rw [dimFromEnd_snoc2_1, dimFromEnd_snoc2_2, prod_append, prod2]
  simp only [ok_bind]
  rw [tabulateM_ok _ _ _ fun o ho => getR_getD x.vals _ ?_]
  · rfl
  · rw [Nat.add_assoc, hl, Nat.mul_comm w f]
    exact transposed_lt (prod B) f w o (Nat.mul_comm w f ▸ ho)

/-- the accumulation loop of `roll_blocks`, as a pure function -/
def rollPure (idx : Nat → Nat) : List S → Nat → List S → List S
  | [], _, out => out
  | x :: xs, q, out => rollPure idx xs (q + 1) (out.set (idx q) (out.getD (idx q) zero + x))

theorem rollPure_cons (idx : Nat → Nat) (x : S) (xs : List S) (q : Nat) (out : List S) :
    rollPure idx (x :: xs) q out = rollPure idx xs (q + 1) (out.set (idx q) (out.getD (idx q) zero + x)) := by rfl

theorem rollPure_length (idx : Nat → Nat) : ∀ (xs : List S) (q : Nat) (out : List S),
    (rollPure idx xs q out).length = out.length
  | [], _, _ => rfl
  | _ :: xs, q, out => (rollPure_length idx xs (q + 1) _).trans List.length_set

theorem rollLoop_ok (idx : Nat → Nat) (xs : List S) (q : Nat) (out : List S)
    (h : ∀ i, i < xs.length → idx (q + i) < out.length) :
    rollLoop true idx xs q out = .ok (rollPure idx xs q out) := by
  induction xs generalizing q out with
  | nil => rfl
  | cons x xs ih =>
    have h0 : idx q < out.length := h 0 (Nat.succ_pos _)
    show (putAt true out (idx q) x >>= fun o => rollLoop true idx xs (q + 1) o) = _
    rw [putAt, List.getElem?_eq_getElem h0, rollPure_cons, List.getD_eq_getElem?_getD, List.getElem?_eq_getElem h0]
    exact ih (q + 1) _ fun i hi => by
      rw [List.length_set, Nat.add_right_comm]; exact h (i + 1) (Nat.succ_lt_succ hi)

/-- the position `unroll_blocks` reads element `o` from is the position `roll_blocks` adds element `o` to:
    the two index computations (written differently in the code) agree for every parameter value -/
theorem unrollIdx_eq_rollIdx (cols rows depth sr sc fr fc cCount o : Nat) :
    unrollIdx cols rows depth sr sc fr fc cCount o = rollIdx depth rows cols sr sc fr fc cCount o := by
  unfold unrollIdx rollIdx
  simp only []
  have e1 : o % (fr * fc * depth) % (fr * fc) = o % (fr * fc) := Nat.mod_mul_right_mod o (fr * fc) depth
  have e2 : o % (fr * fc) % fc = o % fc := Nat.mod_mul_left_mod o fr fc
  have e3 : o % (fr * fc) / fc = o / fc % fr := Nat.mod_mul_left_div_self o fc fr
  have e4 : o % (fr * fc * depth) / (fr * fc) = o / (fr * fc) % depth := Nat.mod_mul_right_div_self o (fr * fc) depth
  have e5 : o / (fr * fc * depth) / cCount = o / (fr * fc * depth * cCount) := Nat.div_div_eq_div_mul o _ _
  rw [e1, e2, e3, e4, e5, Nat.mul_comm fc fr]
  generalize o % fc = nn
  generalize o / fc % fr = m
  generalize o / (fr * fc) % depth = k
  generalize o / (fr * fc * depth) % cCount = c
  generalize o / (fr * fc * depth * cCount) = r
  simp only [Nat.left_distrib, Nat.mul_assoc]
  ac_rfl

theorem rollIdx_lt (D R C sr sc fr fc q : Nat) (hfr : fr ≤ R) (hfc : fc ≤ C) (hfr1 : 1 ≤ fr) (hfc1 : 1 ≤ fc) (hD : 1 ≤ D)
    (hq : q < (((R - fr) / sr + 1) * ((C - fc) / sc + 1)) * (fr * fc) * D) :
    rollIdx D R C sr sc fr fc ((C - fc) / sc + 1) q < D * R * C := by
  rw [← unrollIdx_eq_rollIdx]
  exact unrollIdx_lt C R D sr sc fr fc q hfr hfc hfr1 hfc1 hD (Nat.mul_right_comm _ _ _ ▸ hq)

/-- the length of an unrolled image `[count, D * (fr * fc)]`, in the order `roll_blocks` multiplies it out -/
theorem prod_unrolled (count D g : Nat) : prod [count, D * g] = count * g * D := by
  rw [prod2, Nat.mul_comm D, Nat.mul_assoc]

theorem rollOp_ok (depth rows cols sr sc fr fc count cCount : Nat) (xs : List S)
    (hxs : xs.length = count * (fr * fc) * depth)
    (hin : ∀ i, i < xs.length → rollIdx depth rows cols sr sc fr fc cCount i < depth * rows * cols) :
    rollOp true depth rows cols sr sc fr fc count cCount [xs]
      = .ok (rollPure (rollIdx depth rows cols sr sc fr fc cCount) xs 0 (List.replicate (depth * rows * cols) zero)) := by
  show (if xs.length < count * (fr * fc) * depth then _ else rollLoop true _ (xs.take (count * (fr * fc) * depth)) 0 _) = _
  rw [← hxs, if_neg (Nat.lt_irrefl _), List.take_length, rollLoop_ok]
  intro i hi
  rw [List.length_replicate, Nat.zero_add]
  exact hin i hi

/-- the closed form of `roll_blocks` with accumulation on a delta of the unrolled shape: every block of the
    delta is scattered, with addition, onto an image of zeros -/
theorem rollBlocks_eq (x : Tensor S) (B : List Nat) (D R C sr sc fr fc : Nat)
    (hposB : ∀ d ∈ B, 1 ≤ d) (hD : 1 ≤ D) (hR : 1 ≤ R) (hC : 1 ≤ C)
    (hfr : fr ≤ R) (hfc : fc ≤ C) (hfr1 : 1 ≤ fr) (hfc1 : 1 ≤ fc) (hsc : 1 ≤ sc)
    (hx : Shaped (B ++ [((R - fr) / sr + 1) * ((C - fc) / sc + 1), D * (fr * fc)]) x) :
    rollBlocks x D R C sr sc fr fc true = .ok ⟨B ++ [D, R, C], ((List.range (prod B)).map (fun n =>
      rollPure (rollIdx D R C sr sc fr fc ((C - fc) / sc + 1))
        ((x.vals.drop (n * (((R - fr) / sr + 1) * ((C - fc) / sc + 1) * (fr * fc) * D))).take
          (((R - fr) / sr + 1) * ((C - fc) / sc + 1) * (fr * fc) * D)) 0 (List.replicate (D * R * C) zero))).flatten⟩ := by
  have hG := prod_unrolled (((R - fr) / sr + 1) * ((C - fc) / sc + 1)) D (fr * fc)
  have d2 : dimFromEnd x.dims 2 = .ok (((R - fr) / sr + 1) * ((C - fc) / sc + 1)) := by
    rw [hx.1]; exact dimFromEnd_snoc2_2 _ _ _
  have htk : x.dims.take (x.dims.length - 2) = B := by
    rw [hx.1, List.length_append]; exact List.take_left' (Nat.add_sub_cancel (m := 2) (n := B.length)).symm
  simp only [rollBlocks, d2, ok_bind, if_neg (Nat.not_lt.mpr hfc), if_neg (Nat.ne_of_gt hsc), htk]
  rw [← hG]
  refine slicedOp_blocks x B [_, D * (fr * fc)] [D, R, C] _
    (fun blk => rollPure (rollIdx D R C sr sc fr fc ((C - fc) / sc + 1)) blk 0 (List.replicate (D * R * C) zero)) hx hposB
    (pos_append3 (l := []) (fun _ h => nomatch h) hD hR hC) fun blk hb => ⟨?_, ?_⟩
  · exact rollOp_ok D R C sr sc fr fc _ _ blk (hb.trans hG) fun i hi =>
      rollIdx_lt D R C sr sc fr fc i hfr hfc hfr1 hfc1 hD (by rw [← hG, ← hb]; exact hi)
  · rw [rollPure_length, List.length_replicate, prod3]

end Corgi
