/-
  C14 — Each training iteration steps parameters along the true current-loss gradient.
  (Composition lemmas; the per-iteration value claim is decided on every run against the forward-mode
  reference and the per-parameter SGD formula, see DESIGN.md §8.)
-/
import CorgiProps.C10

set_option linter.unusedSectionVars false

namespace Corgi
variable {S : Type} [Add S] [Mul S] [Neg S] [Sub S] [ScalarOps S] [BEq S]

/-- The backward pass of an iteration starts from a clean engine state and ends in one: whatever
    happened in earlier iterations, no counter or pending delta of theirs is left for the next
    pass to see (so the gradient of iteration `t` is a function of the graph of iteration `t` only,
    by C10/C01). -/
theorem C14_no_leak (G : Graph S) (wf : G.WF) (lawful : G.Lawful) (fuel root : Nat) (hf : root < fuel)
    (dims : List Nat) (keep : Bool) (σ σ' : EState S) (hclean : σ.Clean) (hlog : σ.log = [])
    (hok : backward G fuel root dims keep none σ = .ok σ') : σ'.Clean :=
  C10_clean G wf lawful fuel root hf dims keep none σ σ' hclean hlog hok

/-- After `update`, every parameter that held a gradient is a **fresh leaf**: a new buffer, a new
    node with no stored operands and with no gradient — nothing of the previous iteration's graph is
    reachable from it.  (That the drain then sets both flags on the handle is in C13's `DrainOK`.) -/
theorem C14_fresh_parameter (σ : State S) (t : Tensor S) :
    let r := σ.alloc t [] none false
    (r.1.nodes[r.2.node]?).map (·.kids) = some [] ∧ r.1.grad.size = σ.grad.size + 1 ∧ r.1.grad.back? = some none ∧
      r.2.buf = σ.bufs.size :=
  ⟨congrArg (Option.map NodeRec.kids) (Array.getElem?_push_size (xs := σ.nodes)), Array.size_push _, Array.back?_push, rfl⟩

/-- **No leak across iterations, for every training history**: after any sequence of `fwd`, `bwd`,
    `update` (and any other) commands, the engine state the next iteration starts from is clean. -/
theorem C14_no_leak_reachable (cs : List (Cmd S)) :
    (∀ i, (run cs ({} : State S)).cnt.getD i 0 = 0) ∧ (∀ i, (run cs ({} : State S)).delta.getD i none = none) :=
  C10_clean_reachable cs

/-- **`update` is one gradient-descent step on exactly the model's parameters**: the command is the
    optimizer update (C13: per parameter `old − lr·gradient`, gradients taken, frozen parameters
    untouched) applied, with the model's learning rate, to the parameters of the model's layers in
    order, which are then put back into the layers. -/
theorem C14_update_unfold (σ : State S) (m : String) (mr : ModelRec S) (h : lookup σ.models m = some mr) :
    exec σ (.update m) = (gdUpdate σ mr.lr (modelParams σ mr.layers)).bind (fun r =>
      .ok (putParams r.1 mr.layers r.2, .params (r.2.map (fun h => (r.1.tensorOf h, r.1.grad.getD h.node none))))) := by
  show (match lookup σ.models m with | some mr => _ | none => _) = _
  rw [h]; rfl

/-- **`backward` of an iteration differentiates the cost of the current output against the target,
    from the default (all-ones) seed**: the command builds the cost node on the output recorded by the
    last forward pass and runs the pass from it with no explicit seed (C17: ones). -/
theorem C14_bwd_unfold (σ : State S) (m t : String) (mr : ModelRec S) (out target : Handle)
    (h : lookup σ.models m = some mr) (ho : mr.output = some out) (ht : σ.get t = .ok target) :
    exec σ (.bwd m t) = ((match mr.cost with | .mse => hMse σ out target | .xent => hXent σ out target).bind (fun r =>
      (r.1.backward r.2 none).bind (fun σ2 => .ok (σ2, .scalar (sumAll (σ2.tensorOf r.2)))))) := by
  show (match lookup σ.models m with | some mr => _ | none => _) = _
  rw [h]
  show (match mr.output with | some out => _ | none => _) = _
  rw [ho]
  show (σ.get t >>= _) = _
  rw [ht]
  cases mr.cost <;> rfl

end Corgi

#print axioms Corgi.C14_no_leak
#print axioms Corgi.C14_fresh_parameter
#print axioms Corgi.C14_no_leak_reachable
#print axioms Corgi.C14_update_unfold
#print axioms Corgi.C14_bwd_unfold
