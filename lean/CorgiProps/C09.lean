/-
  C09 — Tracking decides exactly where gradients are computed and stored.
-/
import CorgiProofs.HeapStep

set_option linter.unusedSectionVars false

namespace Corgi
variable {S : Type} [Add S] [Mul S] [Neg S] [Sub S] [ScalarOps S] [BEq S]

/-- **The iff rule**, for every element-wise operation: the result is tracked exactly when one of
    the operands is, and an untracked result stores no operand. -/
theorem C09_iff_ewise (tag : OpTag S) (f : Tensor S → Tensor S → R (Tensor S)) (σ σ' : State S)
    (a b r : Handle) (h : hEwise tag f σ a b = .ok (σ', r)) :
    r.tracked = (a.tracked || b.tracked) ∧ r.keep = r.tracked ∧
    (σ'.nodes[r.node]?).map (·.kids) = some (if r.tracked then [a, b] else []) := by
  obtain ⟨t, _, e⟩ := bindOk h
  cases e
  exact ⟨rfl, rfl, (alloc_flags σ t [a, b] (some tag) (a.tracked || b.tracked) "").2.2⟩

/-- …for every unary operation… -/
theorem C09_iff_unary (tag : OpTag S) (f : Tensor S → Tensor S) (σ σ' : State S) (a r : Handle)
    (h : hUnary tag f σ a = .ok (σ', r)) :
    r.tracked = a.tracked ∧ r.keep = r.tracked ∧
    (σ'.nodes[r.node]?).map (·.kids) = some (if r.tracked then [a] else []) := by
  cases h
  exact ⟨rfl, rfl, (alloc_flags σ (f (σ.tensorOf a)) [a] (some tag) a.tracked "").2.2⟩

/-- …and for `matmul`, **including its additive term**. -/
theorem C09_iff_matmul (σ σ' : State S) (a b r : Handle) (ta tb : Bool) (c : Option Handle)
    (h : hMatmul σ a ta b tb c = .ok (σ', r)) :
    r.tracked = (a.tracked || b.tracked || (match c with | some c => c.tracked | none => false)) ∧
    r.keep = r.tracked := by
  obtain ⟨t, _, e⟩ := bindOk h
  -- either way the result is a fresh allocation, whose two flags are set together
  cases c <;> exact ⟨(hMatmul_spec σ a ta b tb _ (σ', r) h).trk,
    (congrArg (·.2.keep) (Except.ok.inj e)).symm.trans (congrArg (·.2.tracked) (Except.ok.inj e))⟩

/-- **A pass stores gradients only where it entered**, and it enters only the root and nodes reached
    through operands that were tracked when they were used: nothing below an untracked stored
    operand is entered (`Reach` only follows tracked slots), and every other gradient cell is
    untouched. -/
theorem C09_only (G : Graph S) (wf : G.WF) (lawful : G.Lawful) (fuel root : Nat) (hf : root < fuel)
    (dims : List Nat) (keep : Bool) (seed : Option (Tensor S)) (σ σ' : EState S)
    (hclean : σ.Clean) (hlog : σ.log = []) (hok : backward G fuel root dims keep seed σ = .ok σ') :
    ∀ m, ¬ Reach G root m → σ'.grad m = σ.grad m :=
  backward_untouched G wf lawful fuel root hf dims keep seed σ σ' hclean hlog hok

/-- **The pass leaves every flag as it found it**: on the heap, `backward` changes neither the
    handles bound to names, nor the recorded nodes (whose stored operands carry the operand flags). -/
theorem C09_flags_kept (σ σ' : State S) (h : Handle) (seed : Option (Tensor S))
    (hok : σ.backward h seed = .ok σ') :
    σ'.env = σ.env ∧ σ'.nodes = σ.nodes ∧ σ'.bufs = σ.bufs ∧ σ'.layers = σ.layers := by
  obtain ⟨e, _, rfl⟩ := State.backward_ok hok
  exact ⟨rfl, rfl, rfl, rfl⟩

/-- **Setting a flag on a clone never changes the original**: a flag setter rebinds one name. -/
theorem C09_clone_local (σ σ' : State S) (v w : String) (tr keep : Option Bool) (h : Handle)
    (hne : w ≠ v) (hok : setFlags σ v tr keep = .ok (σ', h)) :
    lookup σ'.env w = lookup σ.env w := by
  obtain ⟨x, _, e⟩ := bindOk hok
  cases e
  exact lookup_insert_ne v w _ hne σ.env

/-- **Only where tracked, in every reachable state**: a completed pass in the state after any history
    changes the gradient cell of no node that is not reachable from the root through tracked stored
    operands. -/
theorem C09_only_reachable {σ σ' : State S} (hr : Reachable σ) (v : String) (h : Handle)
    (seed : Option (Tensor S)) (hg : σ.get v = .ok h) (hok : σ.backward h seed = .ok σ') :
    ∀ m, m < σ.nodes.size → ¬ Reach σ.graph h.node m → σ'.grad.getD m none = σ.grad.getD m none := by
  obtain ⟨e, hb, rfl, hwf, hl, _, _, h2, _⟩ := good_backward_counts hr.good (hr.good.get hg) seed hok
  exact fun m hm hnr => (withEState_grad_getD σ e hm).trans
    (backward_frame σ.graph _ h.node h.dims h.keep seed σ.estate e hb m fun hin => hnr ((h2 m).mp hin))

/-- **The iff rule for every composite operation**: subtraction, `axpy`, `sum`, `reshape`, softmax,
    conv, both costs and both layer kinds (dense: matmul with its additive term) return a result that is
    tracked exactly when one of their array arguments (operands, parameters) is. -/
theorem C09_iff_composites (σ : State S) (a b : Handle) (s : S) (k : Nat) (dims : List Nat) (sr sc : Nat) (l : Layer) :
    TrkIs (hSub σ a b) (a.tracked || b.tracked) ∧ TrkIs (hAxpy σ s a b) (a.tracked || b.tracked) ∧
    TrkIs (hSum σ a k) a.tracked ∧ TrkIs (hReshape σ a dims) a.tracked ∧ TrkIs (hSoftmax σ a) a.tracked ∧
    TrkIs (hConv σ a b sr sc) (a.tracked || b.tracked) ∧
    TrkIs (hMse σ a b) (b.tracked || a.tracked) ∧ TrkIs (hXent σ a b) (b.tracked || a.tracked) ∧
    TrkIs (layerForward σ l a)
      (match l with
       | .dense w bb _ => a.tracked || w.tracked || bb.tracked
       | .conv f bb _ _ _ => a.tracked || f.tracked || bb.tracked) :=
  ⟨(hSub_spec σ a b).trk, (hAxpy_spec σ s a b).trk, (hSum_spec σ a k).trk, (hReshape_spec σ a dims).trk,
   (hSoftmax_spec σ a).trk, (hConv_spec σ a b sr sc).trk, (hMse_spec σ a b).trk, (hXent_spec σ a b).trk,
   (layerForward_spec σ l a).trk⟩

end Corgi

#print axioms Corgi.C09_iff_ewise
#print axioms Corgi.C09_iff_unary
#print axioms Corgi.C09_iff_matmul
#print axioms Corgi.C09_only
#print axioms Corgi.C09_flags_kept
#print axioms Corgi.C09_clone_local
#print axioms Corgi.C09_only_reachable
#print axioms Corgi.C09_iff_composites
