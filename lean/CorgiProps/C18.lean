/-
  C18 — Dropping results releases everything they held.
-/
import CorgiProofs.Frame
import CorgiProofs.Owners

set_option linter.unusedSectionVars false

namespace Corgi
variable {S : Type} [Add S] [Mul S] [Neg S] [Sub S] [ScalarOps S] [BEq S]

/-- The owners of a buffer are determined by the live names, the layers, the model outputs and the
    recorded nodes only: a backward pass — with all its pending deltas and stored gradients — does
    not change who owns any buffer (stored gradients never keep a graph alive). -/
theorem C18_pass_holds_nothing (σ σ' : State S) (h : Handle) (seed : Option (Tensor S)) (b : Nat)
    (hok : σ.backward h seed = .ok σ') : σ'.owners b = σ.owners b := by
  obtain ⟨e, _, rfl⟩ := State.backward_ok hok
  rfl

/-- Gradient reads, clears and sets do not change ownership either. -/
theorem C18_grad_ops_hold_nothing (σ : State S) (n : Nat) (g : Option (Tensor S)) (b : Nat) :
    (σ.setGrad n g).owners b = σ.owners b := by rfl

/-- With no live name, no layer and no model output there is no root (so, by `C18_released`, nothing owns
    any buffer). -/
theorem C18_no_roots_no_owners (σ : State S) (h1 : σ.env = []) (h2 : σ.layers = []) (h3 : σ.models = []) :
    σ.roots = [] := by
  simp [State.roots, h1, h2, h3]

/-- **Dropping results releases everything they held.**  In *any* state — whatever graphs were built
    and dropped, however many passes ran, whatever gradients are stored — if every remaining root handle
    (live names, layer parameters, model outputs) is a leaf, then the owners of a buffer are exactly the
    root handles that name it: no dropped result, no finished pass, no gradient cell keeps a reference. -/
theorem C18_released (σ : State S) (b : Nat)
    (hleaf : ∀ h ∈ σ.roots, ∃ r, σ.nodes[h.node]? = some r ∧ r.kids = [] ∧ r.op = none) :
    σ.owners b = (σ.roots.filter (·.buf == b)).length := owners_all_leaves σ b hleaf

/-- …so a leaf named once can be taken back by value: `into_values` (the `own` command) succeeds. -/
theorem C18_sole_owner_can_unwrap (σ : State S) (v : String) (h : Handle) (hg : σ.get v = .ok h)
    (hleaf : ∀ h ∈ σ.roots, ∃ r, σ.nodes[h.node]? = some r ∧ r.kids = [] ∧ r.op = none)
    (hone : (σ.roots.filter (·.buf == h.buf)).length = 1) :
    ∃ σ', exec σ (.own v) = .ok (σ', .owned (σ.tensorOf h).vals) := by
  apply Exists.intro
  show (σ.get v >>= _) = _
  rw [hg]
  exact if_pos ((owners_all_leaves σ h.buf hleaf).trans hone)

end Corgi

#print axioms Corgi.C18_pass_holds_nothing
#print axioms Corgi.C18_grad_ops_hold_nothing
#print axioms Corgi.C18_no_roots_no_owners
#print axioms Corgi.C18_released
#print axioms Corgi.C18_sole_owner_can_unwrap
