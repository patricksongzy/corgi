/-
  C13 — A gradient-descent update is exactly one step per parameter and clears gradients.
-/
import CorgiProofs.Optim

set_option linter.unusedSectionVars false

namespace Corgi
variable {S : Type} [Add S] [Mul S] [Neg S] [Sub S] [ScalarOps S] [BEq S]

/-- **The update, for every parameter list.**  Let the parameters have pairwise distinct nodes and
    valid handles, and let every gradient have its parameter's length (guaranteed for gradients
    produced by passes: C03).  Then `update` succeeds and, reading the final state:
    a parameter without a gradient keeps its handle untouched; a parameter with gradient `g` becomes a
    fresh leaf array (no stored operands, no gradient) of the same dimensions, tracked, whose values
    are `old − lr·g` element by element — each parameter combined with its own gradient only,
    whatever the number of parameters, their shapes and which of them are frozen. -/
theorem C13_update (σ : State S) (lr : S) (ps : List Handle) (hnd : (ps.map (·.node)).Nodup)
    (hbuf : ∀ p ∈ ps, p.buf < σ.bufs.size)
    (hwf : ∀ p ∈ ps, (∀ x ∈ p.dims, 1 ≤ x) ∧ prod p.dims = (σ.tensorOf p).vals.length)
    (halign : ∀ p ∈ ps, ∀ g, gradOf σ p = some g → g.vals.length = (σ.tensorOf p).vals.length)
    (hsz : σ.grad.size = σ.nodes.size) :
    ∃ σ' hs', gdUpdate σ lr ps = .ok (σ', hs') ∧
      DrainOK σ' ps (ps.map (fun p => (gradOf σ p).isNone))
        ((unfrozenBlocks σ ps).map (fun b => List.zipWith (fun x g => x - lr * g) b.1 b.2)) hs' := by
  refine ⟨_, _, gdUpdate_spec σ lr ps hnd hbuf hwf halign, ?_⟩
  apply drainSpec_ok
  · exact blocksFit_stepped σ _ ps (fun p hp g hg => ⟨halign p hp g hg, (hwf p hp).2⟩)
  · -- gathering only clears gradient cells: sizes are unchanged
    obtain ⟨e, sz⟩ := gdGather_eq ps σ
    rw [sz, e]; exact hsz

/-- the gradients of the parameters are taken: afterwards none of the old parameter nodes holds one -/
theorem C13_gradients_cleared (σ : State S) (ps : List Handle) (hnd : (ps.map (·.node)).Nodup) :
    ∀ p ∈ ps, gradOf (gdGather σ ps).1 p = none :=
  fun p hp => by rw [gradOf_gdGather, if_pos ⟨p, hp, rfl⟩]

/-- …and no other gradient cell is touched by the gathering. -/
theorem C13_other_gradients_kept (σ : State S) (ps : List Handle) (hnd : (ps.map (·.node)).Nodup) (q : Handle)
    (hq : ∀ p ∈ ps, p.node ≠ q.node) : gradOf (gdGather σ ps).1 q = gradOf σ q := by
  rw [gradOf_gdGather, if_neg fun ⟨p, hp, e⟩ => hq p hp e]

/-- The positional step distributes over parameters whose value and gradient buffers have the same
    length — and only then: this is where the alignment guaranteed by C03 is needed. -/
theorem C13_step_blocks (f : S → S → S) (blocks : List (List S × List S)) (h : ∀ b ∈ blocks, b.1.length = b.2.length) :
    List.zipWith f (blocks.flatMap (·.1)) (blocks.flatMap (·.2)) = (blocks.map (fun b => List.zipWith f b.1 b.2)).flatten :=
  step_blocks f blocks h

/-- Without the alignment the statement is false in the model (positional drain): two parameters
    `[1,2]`, `[3]` with gradients `[10]`, `[20,30]` — the second parameter is stepped by the first
    parameter's missing entry. -/
example : List.zipWith (fun (x g : Int) => x - g) ([1, 2] ++ [3]) ([10] ++ [20, 30]) = [-9, -18, -27]
    ∧ (List.zipWith (fun (x g : Int) => x - g) [1, 2] [10]) ++ (List.zipWith (fun (x g : Int) => x - g) [3] [20, 30]) = [-9, -17] := by
  decide

end Corgi

#print axioms Corgi.C13_update
#print axioms Corgi.C13_gradients_cleared
#print axioms Corgi.C13_other_gradients_kept
#print axioms Corgi.C13_step_blocks
