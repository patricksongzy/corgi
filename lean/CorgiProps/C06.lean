/-
  C06 — Convolution equals the direct sliding-window definition.
  `C06_conv`: for every batch shape, depth, image / filter size, filter count and stride, `conv`
  returns exactly the sliding-window tensor `specConv` (over scalars whose addition is a commutative
  monoid — the flat dot product of the implementation is regrouped into the triple sum of the
  definition).  Refusals: `C06_refuse_rank`, `C06_refuse_size`.
-/
import CorgiProofs.Composite
import CorgiProofs.ConvAt

set_option linter.unusedSectionVars false

namespace Corgi
variable {S : Type} [Add S] [Mul S] [Neg S] [Sub S] [ScalarOps S]

/-- fewer than three dimensions on either side is refused -/
theorem C06_refuse_rank (img flt : Tensor S) (sr sc : Nat)
    (h : img.dims.length < 3 ∨ flt.dims.length < 3) : ∃ p, conv img flt sr sc = .error p := by
  unfold conv convParams
  by_cases h0 : img.dims.length = 0
  · exact ⟨.underflow, by simp only [h0, if_true, throw_eq_error, error_bind]⟩
  · have : (decide (img.dims.length ≥ 3) && decide (flt.dims.length ≥ 3)) = false := by
      rcases h with h | h
      · rw [decide_eq_false (Nat.not_le.mpr h), Bool.false_and]
      · rw [decide_eq_false (Nat.not_le.mpr h), Bool.and_false]
    exact ⟨.rank, by simp only [h0, this, if_false, Bool.not_false, if_true, throw_eq_error, error_bind, pure_eq_ok]⟩

/-- a filter larger than the image, or a zero stride, is refused -/
theorem C06_refuse_size (l : List Nat) (depth rows cols : Nat) (fl : List Nat) (fd fr fc : Nat) (iv fv : List S)
    (sr sc : Nat) (h : rows < fr ∨ cols < fc ∨ sr = 0 ∨ sc = 0) :
    ∃ p, conv (⟨l ++ [depth, rows, cols], iv⟩ : Tensor S) ⟨fl ++ [fd, fr, fc], fv⟩ sr sc = .error p := by
  refine ⟨.underflow, ?_⟩
  unfold conv
  rw [convParams_snoc3, if_pos (or_assoc.mpr h)]
  rfl

/-- Output size of the specification: `[batch…, count, (rows−frows)/sr+1, (cols−fcols)/sc+1]`. -/
theorem C06_spec_dims (batch : List Nat) (depth rows cols count fd fr fc sr sc : Nat) (iv fv : List S) :
    (specConv (⟨batch ++ [depth, rows, cols], iv⟩ : Tensor S) ⟨[count, fd, fr, fc], fv⟩ sr sc).dims
      = batch ++ [count, (rows - fr) / sr + 1, (cols - fc) / sc + 1] :=
  specConv_dims _ _ batch depth rows cols count fd fr fc sr sc rfl rfl

/-- **The value formula.**  Image `B ++ [D, R, C]` (any batch dimensions `B`, possibly none), filters
    `[K, D, fr, fc]`, both well-formed, `fr ≤ R`, `fc ≤ C`, strides ≥ 1: the result has dimensions
    `B ++ [K, (R−fr)/sr+1, (C−fc)/sc+1]` and entry
    `[b.., f, y, x] = Σ_k Σ_m Σ_n image[b.., k, y·sr+m, x·sc+n] · filter[f, k, m, n]` —
    overlapping and non-overlapping windows, uneven strides, every batch size alike. -/
theorem C06_conv [AddLaws S] (B : List Nat) (D R C K fr fc sr sc : Nat) (iv fv : List S)
    (hwi : (⟨B ++ [D, R, C], iv⟩ : Tensor S).WF) (hwf : (⟨[K, D, fr, fc], fv⟩ : Tensor S).WF)
    (hfr : fr ≤ R) (hfc : fc ≤ C) (hsr : 1 ≤ sr) (hsc : 1 ≤ sc) :
    conv (⟨B ++ [D, R, C], iv⟩ : Tensor S) ⟨[K, D, fr, fc], fv⟩ sr sc
      = .ok (specConv (⟨B ++ [D, R, C], iv⟩ : Tensor S) ⟨[K, D, fr, fc], fv⟩ sr sc) :=
  conv_spec B D R C K fr fc sr sc iv fv hwi hwf hfr hfc hsr hsc

/-- the im2col stage on its own, for any scalars: every window's patch, read from the image -/
theorem C06_unroll (B : List Nat) (D R C sr sc fr fc : Nat) (iv : List S)
    (hposB : ∀ d ∈ B, 1 ≤ d) (hD : 1 ≤ D) (hR : 1 ≤ R) (hC : 1 ≤ C)
    (hlen : iv.length = prod B * (D * R * C))
    (hfr : fr ≤ R) (hfc : fc ≤ C) (hfr1 : 1 ≤ fr) (hfc1 : 1 ≤ fc) (hsr : 1 ≤ sr) (hsc : 1 ≤ sc) :
    ∃ vals, unrollBlocks (⟨B ++ [D, R, C], iv⟩ : Tensor S) sr sc fr fc
      = .ok ⟨B ++ [((R - fr) / sr + 1) * ((C - fc) / sc + 1), D * (fr * fc)], vals⟩ :=
  ⟨_, unroll_flat B D R C sr sc fr fc iv hposB hD hR hC hlen hfr hfc hfr1 hfc1 hsr hsc⟩

/-! non-vacuity: a batched image with overlapping, unevenly strided windows over ℤ meets the hypotheses -/
example : (⟨[2] ++ [2, 4, 5], List.replicate 80 (1 : Int)⟩ : Tensor Int).WF ∧
    (⟨[3, 2, 2, 3], List.replicate 36 (1 : Int)⟩ : Tensor Int).WF ∧ 2 ≤ 4 ∧ 3 ≤ 5 := by
  refine ⟨⟨by decide, by decide⟩, ⟨by decide, by decide⟩, by decide, by decide⟩

/-- **The executed path.**  The `conv` command (and `Conv::forward`) runs a pipeline of four recorded
    nodes — im2col, a view of the filters, the matrix product, the per-image transposition.  Whenever
    that pipeline returns a handle, the array it denotes is the sliding-window tensor: the theorem above
    transfers to what the interpreter (and, through the correspondence check, the code) executes. -/
theorem C06_conv_executed [AddLaws S] [BEq S] (σ σ' : State S) (img flt r : Handle) (B : List Nat) (D R C K fr fc sr sc : Nat)
    (hdi : img.dims = B ++ [D, R, C]) (hdf : flt.dims = [K, D, fr, fc])
    (hwi : (σ.tensorOf img).WF) (hwf : (σ.tensorOf flt).WF) (hbuf : flt.buf < σ.bufs.size)
    (hfr : fr ≤ R) (hfc : fc ≤ C) (hsr : 1 ≤ sr) (hsc : 1 ≤ sc)
    (hok : hConv σ img flt sr sc = .ok (σ', r)) :
    σ'.tensorOf r = specConv (σ.tensorOf img) (σ.tensorOf flt) sr sc :=
  (sound_hConv σ img flt sr sc hbuf).value hok (conv_eq_specConv _ _ B D R C K fr fc sr sc hdi hdf hwi hwf hfr hfc hsr hsc)

/-- **Single elements at any size.**  The `convat` command of the correspondence check (the implementation
    computes `image.conv(filters, strides)` and indexes it; the model evaluates only `convElem`, the triple sum
    of the definition at that index) compares the implementation with the model's own `conv`: for every valid
    configuration and every in-range index, indexing the model's `conv` result gives exactly `convElem`.  This
    carries the tie to image sizes (10^5 .. 10^6 elements) at which building the model's whole result is out of
    reach — where size-dependent code paths of an implementation live. -/
theorem C06_convat [AddLaws S] [BEq S] (img flt : Tensor S) (sr sc : Nat) (i : List Nat)
    (hv : convValidB img flt sr sc = true) (hi : inRange (convOutDims img flt sr sc) i = true) :
    ∃ t, conv img flt sr sc = .ok t ∧ t.index i = .ok (convElem img flt sr sc i) :=
  convat_spec img flt sr sc i hv hi

end Corgi

#print axioms Corgi.C06_convat
#print axioms Corgi.C06_refuse_rank
#print axioms Corgi.C06_refuse_size
#print axioms Corgi.C06_spec_dims
#print axioms Corgi.C06_conv
#print axioms Corgi.C06_unroll
#print axioms Corgi.C06_conv_executed
