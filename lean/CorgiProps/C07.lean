/-
  C07 — Reductions, reshape and point-wise functions compute their definitions.
-/
import CorgiProps.C16
import CorgiProofs.Pointwise
import CorgiSpec.Oracle
import CorgiProofs.Composite

namespace Corgi
variable {S : Type} [Add S] [Mul S] [Neg S] [Sub S] [ScalarOps S]

omit [Add S] [Mul S] [Neg S] [Sub S] [ScalarOps S] in
/-- `reshape` keeps the row-major values under the new dimensions, and refuses a different element
    count (or a zero dimension). -/
theorem C07_reshape (a : Tensor S) (d : List Nat) (t : Tensor S) :
    reshape a d = .ok t ↔ ((∀ x ∈ d, 1 ≤ x) ∧ prod d = a.vals.length ∧ t = ⟨d, a.vals⟩) :=
  C16_mk d a.vals t

omit [Add S] [Mul S] [Neg S] [Sub S] [ScalarOps S] in
theorem C07_reshape_refuses (a : Tensor S) (d : List Nat) (h : prod d ≠ a.vals.length) :
    ∃ p, reshape a d = .error p :=
  C16_mk_refuses d a.vals (fun hh => h hh.2)

/-- Every point-wise function keeps the dimensions and applies its scalar function to each value. -/
theorem C07_maps (a : Tensor S) (s e : S) :
    scale a s = ⟨a.dims, a.vals.map (· * s)⟩ ∧
    neg a = ⟨a.dims, a.vals.map (· * (-one))⟩ ∧
    powf a e = ⟨a.dims, a.vals.map (fun x => ScalarOps.powf x e)⟩ ∧
    ln a = ⟨a.dims, a.vals.map ScalarOps.ln⟩ ∧
    exp a = ⟨a.dims, a.vals.map ScalarOps.exp⟩ ∧
    recip a = ⟨a.dims, a.vals.map (fun x => ScalarOps.div one x)⟩ ∧
    relu a = ⟨a.dims, a.vals.map (fun x => if ScalarOps.pos x then x else zero)⟩ ∧
    sigmoid a = ⟨a.dims, a.vals.map (fun x => ScalarOps.div one (one + ScalarOps.exp (-x)))⟩ :=
  ⟨rfl, rfl, rfl, rfl, rfl, rfl, rfl, rfl⟩

/-- In a commutative ring, negation as the code computes it (`x * -1`) is `-x`. -/
theorem C07_neg_ring {R : Type} [Lean.Grind.CommRing R] (x : R) : x * (-1) = -x := by grind

/-- **`sum(k)`** for every well-formed array of any rank and every `1 ≤ k ≤ rank`: the last `k`
    dimensions collapse into one unit dimension holding the sums of the trailing blocks. -/
theorem C07_sum (a : Tensor S) (k : Nat) (hwf : a.WF) (hk : 1 ≤ k) (hkr : k ≤ a.dims.length) :
    sum a k = .ok (specSum a k) := sum_spec a k hwf hk hkr

/-- the specification's shape: leading dimensions, then one unit dimension -/
theorem C07_sum_dims (a : Tensor S) (k : Nat) (hk : 1 ≤ k) :
    (specSum a k).dims = a.dims.take (a.dims.length - k) ++ [1] := by
  have : ¬ k = 0 := Nat.ne_of_gt hk
  simp [specSum, this]

/-- `sum(0)` is the identity, `sum_all` is the total. -/
theorem C07_sum_zero (a : Tensor S) : sum a 0 = .ok a := by rfl
theorem C07_sumAll (a : Tensor S) : sumAll a = a.vals.foldl (· + ·) zero := by rfl

/-! non-vacuity -/
example : (⟨[2, 3], [1, 2, 3, 4, 5, (6 : Int)]⟩ : Tensor Int).WF := ⟨by decide, by decide⟩

/-- **softmax normalises every row of the last dimension**: for every well-formed array of rank ≥ 1
    (any number of leading dimensions, any row length), `softmax a` is the specification's tensor —
    `a`'s dimensions, element `i` = `exp aᵢ / Σ exp` over `i`'s row (composition of the point-wise
    `exp`, `sum(1)` and the broadcast division, each proved). -/
theorem C07_softmax [BEq S] (a : Tensor S) (L : List Nat) (n : Nat) (hd : a.dims = L ++ [n]) (hwf : a.WF) :
    softmax a = .ok (specSoftmax a) := by
  rw [softmax_spec a L n hd hwf]
  congr 1
  simp [specSoftmax, softmaxFlat, hd]

/-- **The executed path**: the `softmax` command records three nodes (exp, sum(1), division); whenever
    it returns a handle, the array it denotes is the row-normalised exponentials. -/
theorem C07_softmax_executed [BEq S] (σ σ' : State S) (a r : Handle) (L : List Nat) (n : Nat) (hd : a.dims = L ++ [n])
    (hwf : (σ.tensorOf a).WF) (hok : hSoftmax σ a = .ok (σ', r)) :
    σ'.tensorOf r = specSoftmax (σ.tensorOf a) :=
  (sound_hSoftmax σ a).value hok (C07_softmax (σ.tensorOf a) L n hd hwf)

end Corgi

#print axioms Corgi.C07_reshape
#print axioms Corgi.C07_reshape_refuses
#print axioms Corgi.C07_maps
#print axioms Corgi.C07_neg_ring
#print axioms Corgi.C07_sum
#print axioms Corgi.C07_sum_dims
#print axioms Corgi.C07_sum_zero
#print axioms Corgi.C07_sumAll
#print axioms Corgi.C07_softmax
#print axioms Corgi.C07_softmax_executed
