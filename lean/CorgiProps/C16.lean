/-
  C16 — Construction, row-major layout, indexing and equality are consistent.
  Every theorem is about the executable model functions that the driver runs against the implementation.
-/
import CorgiProofs.Index

namespace Corgi
variable {S : Type}

/-- `Array::from((dims, values))` succeeds exactly when every dimension is ≥ 1 and the product of
    the dimensions is the number of values, and then has exactly those dimensions and values. -/
theorem C16_mk (d : List Nat) (v : List S) (t : Tensor S) :
    Tensor.mk? d v = .ok t ↔ ((∀ x ∈ d, 1 ≤ x) ∧ prod d = v.length ∧ t = ⟨d, v⟩) :=
  Tensor.mk?_eq_ok_iff

/-- …and panics otherwise (zero dimension, or element count mismatch). -/
theorem C16_mk_refuses (d : List Nat) (v : List S) (h : ¬ ((∀ x ∈ d, 1 ≤ x) ∧ prod d = v.length)) :
    ∃ p, Tensor.mk? d v = .error p := by
  cases hr : Tensor.mk? d v with
  | error p => exact ⟨p, rfl⟩
  | ok t => exact absurd (let h' := (C16_mk d v t).mp hr; ⟨h'.1, h'.2.1⟩) h

/-- A flat vector becomes a rank-1 array of its length (an empty vector is refused: dimension 0). -/
theorem C16_flat (v : List S) (hne : v ≠ []) : Tensor.ofFlat v = .ok ⟨[v.length], v⟩ :=
  Tensor.mk?_ok (fun _ hx => List.mem_singleton.mp hx ▸ List.length_pos_iff.mpr hne) (prod1 _)

/-- Dimensions alone give zeros. -/
theorem C16_zeros [ScalarOps S] (d : List Nat) (h : ∀ x ∈ d, 1 ≤ x) :
    Tensor.zeros (S := S) d = .ok ⟨d, List.replicate (prod d) zero⟩ :=
  (C16_mk d _ _).mpr ⟨h, by simp, rfl⟩

/-- Nesting well-formed arrays of equal dimensions `d` gives dimensions `n :: d` and the
    concatenated values. -/
theorem C16_nested (t : Tensor S) (rest : List (Tensor S)) (hd : ∀ u ∈ rest, u.dims = t.dims)
    (hwf : ∀ u ∈ t :: rest, u.WF) :
    Tensor.ofNested (t :: rest) = .ok ⟨(rest.length + 1) :: t.dims, (t :: rest).flatMap (·.vals)⟩ := by
  have hall : rest.all (fun u => u.dims == t.dims) = true := by
    simp only [List.all_eq_true, beq_iff_eq]; exact hd
  have hlen := length_flatten_const (nested_parts_length (t :: rest) t.dims (List.forall_mem_cons.mpr ⟨rfl, hd⟩) hwf)
  unfold Tensor.ofNested
  simp only [hall, Bool.not_true, Bool.false_eq_true, if_false]
  refine Tensor.mk?_ok (List.forall_mem_cons.mpr ⟨Nat.succ_pos _, (hwf t List.mem_cons_self).1⟩) ?_
  rw [List.flatMap_def, hlen, List.length_map]
  rfl

/-- Nested element `(i :: idx)` is element `idx` of the `i`-th part. -/
theorem C16_nested_get (ts : List (Tensor S)) (d : List Nat) (hd : ∀ u ∈ ts, u.dims = d)
    (hwf : ∀ u ∈ ts, u.WF) (i : Nat) (idx : List Nat) (hidx : inRange d idx = true) (hne : d ≠ []) :
    (ts.flatMap (·.vals))[rowMajor (ts.length :: d) (i :: idx)]? = (ts[i]?).bind (·.vals[rowMajor d idx]?) := by
  rw [List.flatMap_def, rowMajor_cons, getElem?_flatten_const (nested_parts_length ts d hd hwf) i _ (rowMajor_lt hidx),
    List.getElem?_map]
  cases ts[i]? <;> rfl

/-- A full in-range multi-index reads the row-major element. -/
theorem C16_index (t : Tensor S) (idx : List Nat) (hwf : t.WF) (hne : t.dims ≠ [])
    (h : inRange t.dims idx = true) :
    ∃ x, t.index idx = .ok x ∧ t.vals[rowMajor t.dims idx]? = some x :=
  have hx := List.getElem?_eq_getElem (hwf.2 ▸ rowMajor_lt h : rowMajor t.dims idx < t.vals.length)
  ⟨_, Tensor.index_ok t idx _ hne h hx, hx⟩

/-- A flat index reads that element, and is refused out of range. -/
theorem C16_indexFlat (t : Tensor S) (i : Nat) :
    (∀ h : i < t.vals.length, t.indexFlat i = .ok t.vals[i]) ∧
    (¬ i < t.vals.length → t.indexFlat i = .error .indexOOB) := by
  constructor
  · intro h; simp [Tensor.indexFlat, getR, h]
  · intro h
    have : t.vals[i]? = none := List.getElem?_eq_none (Nat.le_of_not_lt h)
    simp [Tensor.indexFlat, getR, this]

/-- Row-major layout: the `n`-th value is the element at the `n`-th multi-index, and conversely. -/
theorem C16_layout (d : List Nat) (hpos : ∀ x ∈ d, 1 ≤ x) (n : Nat) (hn : n < prod d) :
    inRange d (unflatten d n) = true ∧ rowMajor d (unflatten d n) = n :=
  ⟨unflatten_inRange hpos hn, rowMajor_unflatten hn⟩

theorem C16_layout_inv (d idx : List Nat) (h : inRange d idx = true) :
    unflatten d (rowMajor d idx) = idx := unflatten_rowMajor h

/-- Equality is exactly equality of dimensions and values; tracking state, graph and gradient are
    not part of a `Tensor` at all (they live on handles and nodes), so they cannot matter. -/
theorem C16_eq [BEq S] [LawfulBEq S] (a b : Tensor S) :
    a.beq b = true ↔ (a.dims = b.dims ∧ a.vals = b.vals) := by
  simp [Tensor.beq]

/-! non-vacuity: concrete instances of the hypotheses -/
example : (Tensor.mk? [2, 3] [1, 2, 3, 4, 5, (6 : Nat)]) = .ok ⟨[2, 3], [1, 2, 3, 4, 5, 6]⟩ := rfl
example : inRange [2, 3] [1, 2] = true ∧ rowMajor [2, 3] [1, 2] = 5 := by decide
example : (⟨[2, 3], [1, 2, 3, 4, 5, (6 : Nat)]⟩ : Tensor Nat).WF := ⟨by decide, by decide⟩
example : unflatten [2, 3] 5 = [1, 2] := by decide
example : flattenIndices [1, 2] [2, 3] = .ok 5 := rfl
example : ∃ p, Tensor.mk? [2, 0] ([] : List Nat) = .error p := ⟨.badDims, rfl⟩

end Corgi

#print axioms Corgi.C16_mk
#print axioms Corgi.C16_mk_refuses
#print axioms Corgi.C16_flat
#print axioms Corgi.C16_zeros
#print axioms Corgi.C16_nested
#print axioms Corgi.C16_nested_get
#print axioms Corgi.C16_index
#print axioms Corgi.C16_indexFlat
#print axioms Corgi.C16_layout
#print axioms Corgi.C16_layout_inv
#print axioms Corgi.C16_eq
