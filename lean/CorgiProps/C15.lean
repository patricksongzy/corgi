/-
  C15 — Layers, activations, costs and the model compute their documented formulas.
-/
import CorgiProps.C04
import CorgiProps.C06

set_option linter.unusedSectionVars false

namespace Corgi
variable {S : Type} [Add S] [Mul S] [Neg S] [Sub S] [ScalarOps S] [BEq S]

/-- A dense layer computes `activation(matmul(x, Wᵀ) + b)`: one matmul with the right operand
    transposed and the bias as additive term, then the activation. -/
theorem C15_dense (σ : State S) (w b x : Handle) (act : Act) :
    layerForward σ (.dense w b act) x = (hMatmul σ x false w true (some b)).bind (fun r => hAct r.1 act r.2) := by
  rfl

/-- A convolutional layer computes `activation(conv(x, filters, stride) + b)`, the bias being added
    by broadcasting (`[count,1,1]`: one bias per filter). -/
theorem C15_conv (σ : State S) (f b x : Handle) (sr sc : Nat) (act : Act) :
    layerForward σ (.conv f b sr sc act) x
      = (hConv σ x f sr sc).bind (fun c => (hAdd c.1 c.2 b).bind (fun r => hAct r.1 act r.2)) := by
  rfl

/-- The mean-squared-error cost is `(target − output)² · (1 / element count)`. -/
theorem C15_mse (output target : Tensor S) :
    mse output target = (sub target output).map (fun d =>
      scale (powf d (one + one)) (ScalarOps.div one (ScalarOps.ofNat (prod output.dims)))) := by
  simp only [mse, bind, Except.bind, Except.map]
  cases sub target output <;> rfl

/-- The cross-entropy cost is `(−target · ln output) · (1 / leading dimension)`. -/
theorem C15_xent (output target : Tensor S) (b : Nat) (rest : List Nat) (hd : output.dims = b :: rest) :
    crossEntropy output target = (mul (neg target) (ln output)).map (fun p =>
      scale p (ScalarOps.div one (ScalarOps.ofNat b))) := by
  simp only [crossEntropy, hd, getR, List.getElem?_cons_zero, bind, Except.bind, pure, Except.pure, Except.map]

/-- On values, over a commutative ring: `(t − o)² · c` elementwise is what the scaled square gives. -/
theorem C15_mse_ring {R : Type} [Lean.Grind.CommRing R] (t o c : R) : (t + o * (-1)) * (t + o * (-1)) * c = (t - o) * (t - o) * c := by
  rw [Lean.Grind.Ring.mul_neg, Lean.Grind.Semiring.mul_one, ← Lean.Grind.Ring.sub_eq_add_neg]

/-- **The dense layer's value**, for every batch shape and layer size: with input `x : lx ++ [rows, inp]`,
    weights `w : [out, inp]` and bias `b : [out]` (all well-formed), the forward pass returns — before
    the activation — the array of dimensions `lx ++ [rows, out]` whose entry `[L.., r, o]` is
    `b[o] + Σ_i x[L.., r, i] · w[o, i]` (`specMatmul x false w true (some b)`), and then applies the
    activation; for `none`, `relu`, `sigmoid` the activation is the documented element-wise map. -/
theorem C15_dense_value (σ σ' : State S) (w b x r : Handle) (lx : List Nat) (rows inp out : Nat)
    (hx : x.dims = lx ++ [rows, inp]) (hw : w.dims = [out, inp]) (hb : b.dims = [out])
    (hwx : (σ.tensorOf x).WF) (hww : (σ.tensorOf w).WF) (hwb : (σ.tensorOf b).WF)
    (hok : layerForward σ (.dense w b .none) x = .ok (σ', r)) :
    σ'.tensorOf r = specMatmul (σ.tensorOf x) false (σ.tensorOf w) true (some (σ.tensorOf b)) := by
  obtain ⟨⟨σ1, r0⟩, e1, e2⟩ := bindOk (show hMatmul σ x false w true (some b) >>= (fun p => hAct p.1 .none p.2) = _ from hok)
  obtain ⟨rfl, rfl⟩ := Prod.mk.inj (Except.ok.inj e2)
  have hm := (sound_hMatmul σ x false w true (some b) σ1 r0 e1).1
  rw [Option.map_some, matmul_spec_bias (σ.tensorOf x) (σ.tensorOf w) (σ.tensorOf b) false true lx [] rows inp out inp
    hx hw hwx hww (Compat_nil_right lx) rfl hb hwb] at hm
  exact (Except.ok.inj hm).symm

/-- the element-wise activations are the documented maps (definitional in the model; the tie checks the code) -/
theorem C15_activations (t : Tensor S) :
    relu t = mapT (fun x => if ScalarOps.pos x then x else zero) t ∧
    sigmoid t = mapT (fun x => ScalarOps.div one (one + ScalarOps.exp (-x))) t := ⟨rfl, rfl⟩

/-- **The executed path** of the two costs: the `cost` command (and `Model::backward`) records the
    nodes of `(target − output)² · 1/count` resp. `−target · ln output · 1/batch`; whenever it returns
    a handle, the array it denotes is the tensor-level cost of `C15_mse` / `C15_xent`. -/
theorem C15_costs_executed (σ σ' : State S) (o t r : Handle) :
    (t.buf < σ.bufs.size → hMse σ o t = .ok (σ', r) → mse (σ.tensorOf o) (σ.tensorOf t) = .ok (σ'.tensorOf r)) ∧
    (o.buf < σ.bufs.size → hXent σ o t = .ok (σ', r) → crossEntropy (σ.tensorOf o) (σ.tensorOf t) = .ok (σ'.tensorOf r)) :=
  ⟨fun ht hok => (sound_hMse σ o t ht σ' r hok).1, fun ho hok => (sound_hXent σ o t ho σ' r hok).1⟩

/-- **The convolutional layer's value**, for every batch shape, depth, image / filter size, filter
    count and stride: with input `x : B ++ [D, R, C]`, filters `[K, D, fr, fc]` and bias `[K, 1, 1]`
    (all well-formed), the forward pass returns — before the activation — the sliding-window
    convolution plus the bias of each filter broadcast over its output plane:
    `[b.., f, y, x] = (Σ_k Σ_m Σ_n x[b.., k, y·sr+m, x·sc+n] · filter[f, k, m, n]) + bias[f]`. -/
theorem C15_conv_layer_value [AddLaws S] (σ σ' : State S) (f b x r : Handle) (B : List Nat) (D R C K fr fc sr sc : Nat)
    (hdx : x.dims = B ++ [D, R, C]) (hdf : f.dims = [K, D, fr, fc]) (hdb : b.dims = [K, 1, 1])
    (hwx : (σ.tensorOf x).WF) (hwf : (σ.tensorOf f).WF) (hwb : (σ.tensorOf b).WF)
    (hbf : f.buf < σ.bufs.size) (hbb : b.buf < σ.bufs.size)
    (hfr : fr ≤ R) (hfc : fc ≤ C) (hsr : 1 ≤ sr) (hsc : 1 ≤ sc)
    (hok : layerForward σ (.conv f b sr sc .none) x = .ok (σ', r)) :
    σ'.tensorOf r = specEwise (· + ·) (specConv (σ.tensorOf x) (σ.tensorOf f) sr sc) (σ.tensorOf b) := by
  simp only [layerForward] at hok
  obtain ⟨⟨σ1, c⟩, e1, e2⟩ := bindOk hok
  obtain ⟨⟨σ2, r0⟩, e3, e4⟩ := bindOk e2
  obtain ⟨rfl, rfl⟩ := Prod.mk.inj (Except.ok.inj e4)
  have hc := C06_conv_executed σ σ1 x f c B D R C K fr fc sr sc hdx hdf hwx hwf hbf hfr hfc hsr hsc e1
  obtain ⟨_, x1, _⟩ := sound_hConv σ x f sr sc hbf σ1 c e1
  obtain ⟨v3, _, _⟩ := sound_hEwise (.add : OpTag S) add σ1 c b σ2 r0 e3
  rw [hc, tensorOf_ext x1 b hbb] at v3
  -- the convolution output is a well-formed array whose dimensions the bias broadcasts to
  have hdx' : (σ.tensorOf x).dims = B ++ [D, R, C] := hdx
  have hdf' : (σ.tensorOf f).dims = [K, D, fr, fc] := hdf
  have hdb' : (σ.tensorOf b).dims = [K, 1, 1] := hdb
  have hdims := specConv_dims _ _ B D R C K D fr fc sr sc hdx' hdf'
  rw [C04_add _ _ (specConv_WF _ _ B D R C K D fr fc sr sc hdx' hdf' (fun d hd => hwx.1 d (hdx' ▸ List.mem_append_left _ hd))
      (hwf.1 K (hdf' ▸ List.mem_cons_self))) hwb
    (by rw [hdims]; exact List.append_ne_nil_of_right_ne_nil _ (List.cons_ne_nil _ _)) (by rw [hdb']; exact List.cons_ne_nil _ _)
    (by rw [hdims, hdb']; simp [Compat, compatRev_cons, compatRev_nil_right])] at v3
  exact (Except.ok.inj v3).symm

end Corgi

#print axioms Corgi.C15_dense
#print axioms Corgi.C15_conv
#print axioms Corgi.C15_mse
#print axioms Corgi.C15_xent
#print axioms Corgi.C15_mse_ring
#print axioms Corgi.C15_dense_value
#print axioms Corgi.C15_activations
#print axioms Corgi.C15_costs_executed
#print axioms Corgi.C15_conv_layer_value
