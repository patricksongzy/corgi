/-
  C12 — Handles are transparent: clones, drops and re-binding never change results.
-/
import CorgiProofs.Frame

set_option linter.unusedSectionVars false

namespace Corgi
variable {S : Type} [Add S] [Mul S] [Neg S] [Sub S] [ScalarOps S] [BEq S]

/-- A clone *is* the handle: same dimensions, same buffer, same node (hence the same counter,
    pending delta and gradient cell), same flags — only the name differs. -/
theorem C12_clone_is_handle (σ σ' : State S) (w v : String) (o : Out S) (h : Handle)
    (hv : σ.get v = .ok h) (hok : exec σ (.clone w v) = .ok (σ', o)) :
    σ' = σ.bind w h := by
  obtain ⟨x, hx, e⟩ := bindOk hok
  cases hv.symm.trans hx; cases e; rfl

/-- What an operation computes and records depends only on the operand *handles* — never on the
    names they are bound to, nor on which other names are live: under any other name environment
    (operands replaced by clones, unused handles dropped, variables re-bound) the operation returns
    the same result handle and makes the same change to the heap. -/
theorem C12_op_ignores_names (tag : OpTag S) (f : Tensor S → Tensor S → R (Tensor S))
    (σ : State S) (env' : List (String × Handle)) (a b : Handle) :
    hEwise tag f { σ with env := env' } a b
      = (hEwise tag f σ a b).map (fun r => ({ r.1 with env := env' }, r.2)) := by
  show (f (σ.tensorOf a) (σ.tensorOf b) >>= _) = Except.map _ (f (σ.tensorOf a) (σ.tensorOf b) >>= _)
  cases f (σ.tensorOf a) (σ.tensorOf b) <;> rfl

theorem C12_unary_ignores_names (tag : OpTag S) (f : Tensor S → Tensor S)
    (σ : State S) (env' : List (String × Handle)) (a : Handle) :
    hUnary tag f { σ with env := env' } a = (hUnary tag f σ a).map (fun r => ({ r.1 with env := env' }, r.2)) := by rfl

/-- A backward pass does not read the name environment: it is a function of the heap and the handle
    it is started on, so starting it from a clone of the result (an equal handle), with any handles
    cloned, dropped or re-bound, is the same pass. -/
theorem C12_pass_ignores_names (σ : State S) (env' : List (String × Handle)) (h : Handle) (seed : Option (Tensor S)) :
    ({ σ with env := env' } : State S).backward h seed = (σ.backward h seed).map (fun s => { s with env := env' }) := by
  show (Corgi.backward σ.graph _ _ _ _ _ σ.estate >>= _) = Except.map _ (Corgi.backward σ.graph _ _ _ _ _ σ.estate >>= _)
  cases Corgi.backward σ.graph (σ.nodes.size + 1) h.node h.dims h.keep seed σ.estate <;> rfl

/-- A gradient deposited through any clone is visible through every other clone: the gradient is
    read through the node id, which clones share. -/
theorem C12_shared_grad (σ : State S) (h₁ h₂ : Handle) (hnode : h₁.node = h₂.node) :
    σ.grad.getD h₁.node none = σ.grad.getD h₂.node none := by rw [hnode]

/-- Dropping a name changes nothing but the environment. -/
theorem C12_drop (σ σ' : State S) (v : String) (o : Out S) (hok : exec σ (.drop v) = .ok (σ', o)) :
    σ'.bufs = σ.bufs ∧ σ'.nodes = σ.nodes ∧ σ'.cnt = σ.cnt ∧ σ'.delta = σ.delta ∧ σ'.grad = σ.grad := by
  obtain ⟨x, _, e⟩ := bindOk hok
  cases e; exact ⟨rfl, rfl, rfl, rfl, rfl⟩

end Corgi

#print axioms Corgi.C12_clone_is_handle
#print axioms Corgi.C12_op_ignores_names
#print axioms Corgi.C12_unary_ignores_names
#print axioms Corgi.C12_pass_ignores_names
#print axioms Corgi.C12_shared_grad
#print axioms Corgi.C12_drop
