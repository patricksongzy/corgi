/-
  C04 — Element-wise operations follow right-aligned broadcasting, or refuse.
-/
import CorgiProofs.Ewise
import CorgiProofs.Composite

set_option linter.unusedSectionVars false

namespace Corgi
variable {S : Type} [Add S] [Mul S] [Neg S] [Sub S] [ScalarOps S]

/-- The result shape is the pairwise maximum of the right-aligned dimensions exactly when they are
    pairwise equal or 1; any other pair is refused.  All ranks, all sizes. -/
theorem C04_dims (x y : List Nat) :
    ewiseDims x y = if Compat x y then .ok (bdims x y) else .error .incompatible :=
  ewiseDims_spec x y

/-- An element-wise operation on incompatible shapes panics — it never returns values. -/
theorem C04_refuse (f : S → S → S) (a b : Tensor S) (h : Compat a.dims b.dims = false) :
    ewise f a b = .error .incompatible := by
  simp [ewise, ewiseDims_spec, h, bind, Except.bind]

/-- …for each of the public operations (`sub` negates first, `axpy` scales first: shapes unchanged). -/
theorem C04_refuse_ops (a b : Tensor S) (s : S) (h : Compat a.dims b.dims = false) :
    add a b = .error .incompatible ∧ mul a b = .error .incompatible ∧ div a b = .error .incompatible
    ∧ sub a b = .error .incompatible ∧ axpy s a b = .error .incompatible := by
  refine ⟨C04_refuse _ a b h, C04_refuse _ a b h, C04_refuse _ a b h, ?_, ?_⟩
  · exact C04_refuse _ a (neg b) h
  · exact C04_refuse _ (scale a s) b h

/-- **The element formula, all ranks and sizes.**  For well-formed operands (rank ≥ 1) whose
    dimensions, aligned from the last one, are pairwise equal or 1, every element-wise operation
    returns the array with the pairwise-maximum dimensions whose element at each multi-index is the
    scalar operation applied to the operands' elements at that index (index 0 along broadcast
    dimensions, surplus leading indices dropped). -/
theorem C04_ewise (f : S → S → S) (a b : Tensor S) (hwa : a.WF) (hwb : b.WF)
    (hna : a.dims ≠ []) (hnb : b.dims ≠ []) (hc : Compat a.dims b.dims = true) :
    ewise f a b = .ok (specEwise f a b) := ewise_spec f a b hwa hwb hna hnb hc

theorem C04_add (a b : Tensor S) (hwa : a.WF) (hwb : b.WF) (hna : a.dims ≠ []) (hnb : b.dims ≠ [])
    (hc : Compat a.dims b.dims = true) : add a b = .ok (specEwise (· + ·) a b) := ewise_spec _ a b hwa hwb hna hnb hc
theorem C04_mul (a b : Tensor S) (hwa : a.WF) (hwb : b.WF) (hna : a.dims ≠ []) (hnb : b.dims ≠ [])
    (hc : Compat a.dims b.dims = true) : mul a b = .ok (specEwise (· * ·) a b) := ewise_spec _ a b hwa hwb hna hnb hc
theorem C04_div (a b : Tensor S) (hwa : a.WF) (hwb : b.WF) (hna : a.dims ≠ []) (hnb : b.dims ≠ [])
    (hc : Compat a.dims b.dims = true) : div a b = .ok (specEwise ScalarOps.div a b) := ewise_spec _ a b hwa hwb hna hnb hc

/-- `a - b` is computed as `a + (b · (−1))`, `axpy(α, x, y)` as `x·α + y`: the same formula on the
    mapped operand (a point-wise map keeps dimensions and well-formedness). -/
theorem C04_sub (a b : Tensor S) (hwa : a.WF) (hwb : b.WF) (hna : a.dims ≠ []) (hnb : b.dims ≠ [])
    (hc : Compat a.dims b.dims = true) : sub a b = .ok (specEwise (· + ·) a (neg b)) :=
  ewise_spec _ a (neg b) hwa ⟨hwb.1, hwb.2.trans (List.length_map _).symm⟩ hna hnb hc
theorem C04_axpy (s : S) (a b : Tensor S) (hwa : a.WF) (hwb : b.WF) (hna : a.dims ≠ []) (hnb : b.dims ≠ [])
    (hc : Compat a.dims b.dims = true) : axpy s a b = .ok (specEwise (· + ·) (scale a s) b) :=
  ewise_spec _ (scale a s) b ⟨hwa.1, hwa.2.trans (List.length_map _).symm⟩ hwb hna hnb hc

/-- the result's dimensions are the pairwise maximum -/
theorem C04_result_dims (f : S → S → S) (a b : Tensor S) : (specEwise f a b).dims = bdims a.dims b.dims := by rfl

/-! non-vacuity -/
example : (⟨[2, 1, 2], [1, 2, 3, (4 : Nat)]⟩ : Tensor Nat).WF ∧ (⟨[2, 2], [10, 20, 30, (40 : Nat)]⟩ : Tensor Nat).WF := by
  exact ⟨⟨by decide, by decide⟩, ⟨by decide, by decide⟩⟩
example : Compat [2, 1, 2] [2, 2] = true ∧ bdims [2, 1, 2] [2, 2] = [2, 2, 2] := by decide
example : Compat [2, 3] [2] = false := by decide

/-- **The executed path** of subtraction and `axpy` (two recorded nodes each): whenever the command
    returns a handle, the array it denotes is the broadcast formula above. -/
theorem C04_sub_axpy_executed [BEq S] (σ σ' : State S) (a b r : Handle) (s : S) :
    (a.buf < σ.bufs.size → hSub σ a b = .ok (σ', r) → sub (σ.tensorOf a) (σ.tensorOf b) = .ok (σ'.tensorOf r)) ∧
    (b.buf < σ.bufs.size → hAxpy σ s a b = .ok (σ', r) → axpy s (σ.tensorOf a) (σ.tensorOf b) = .ok (σ'.tensorOf r)) :=
  ⟨fun ha hok => (sound_hSub σ a b ha σ' r hok).1, fun hb hok => (sound_hAxpy σ s a b hb σ' r hok).1⟩

end Corgi

#print axioms Corgi.C04_dims
#print axioms Corgi.C04_refuse
#print axioms Corgi.C04_refuse_ops
#print axioms Corgi.C04_ewise
#print axioms Corgi.C04_add
#print axioms Corgi.C04_mul
#print axioms Corgi.C04_div
#print axioms Corgi.C04_sub
#print axioms Corgi.C04_axpy
#print axioms Corgi.C04_result_dims
#print axioms Corgi.C04_sub_axpy_executed
