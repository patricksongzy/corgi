/-
  C10 — Gradients accumulate additively across passes; a finished pass leaves no residue.
-/
import CorgiProofs.LinearHeap

set_option linter.unusedSectionVars false

namespace Corgi
variable {S : Type} [Add S] [Mul S] [Neg S] [Sub S] [ScalarOps S] [BEq S]

/-- **No residue.**  A pass that completes from a clean state (all counters zero, no pending delta)
    ends in a clean state: every counter is back to zero and every pending sum is empty — on every
    well-founded graph, for every root (a result, an interior node, a node shared with earlier
    passes) and every seed. -/
theorem C10_clean (G : Graph S) (wf : G.WF) (lawful : G.Lawful) (fuel root : Nat) (hf : root < fuel)
    (dims : List Nat) (keep : Bool) (seed : Option (Tensor S)) (σ σ' : EState S)
    (hclean : σ.Clean) (hlog : σ.log = []) (hok : backward G fuel root dims keep seed σ = .ok σ') :
    σ'.Clean :=
  (backward_counts G wf lawful fuel root hf dims keep seed σ σ' hclean hlog hok).1

/-- successive `backward` calls, one per (root, dims, keep, seed), each with a fresh log -/
def runPasses (G : Graph S) (fuel : Nat) : List (Nat × List Nat × Bool × Option (Tensor S)) → EState S → R (EState S)
  | [], σ => pure σ
  | (root, dims, keep, seed) :: ps, σ => do
    let σ1 ← backward G fuel root dims keep seed { σ with log := [] }
    runPasses G fuel ps σ1

/-- **Any sequence of passes** over the same recorded graph (on the same result again, on different
    results sharing sub-graphs, on an interior node and later on a result containing it): the state is
    clean after each of them, so every pass starts from the same counter / pending-sum state whatever
    ran before it. -/
theorem C10_clean_history (G : Graph S) (wf : G.WF) (lawful : G.Lawful) (fuel : Nat)
    (ps : List (Nat × List Nat × Bool × Option (Tensor S))) (hfuel : ∀ p ∈ ps, p.1 < fuel) :
    ∀ (σ σ' : EState S), σ.Clean → runPasses G fuel ps σ = .ok σ' → σ'.Clean := by
  induction ps with
  | nil => intro σ σ' h hr; obtain rfl : σ = σ' := Except.ok.inj hr; exact h
  | cons p ps ih =>
    obtain ⟨root, dims, keep, seed⟩ := p
    intro σ σ' h hr
    obtain ⟨σ1, h1, hr⟩ := bindOk hr
    have hc1 : σ1.Clean := C10_clean G wf lawful fuel root (hfuel _ (.head _)) dims keep seed
      { σ with log := [] } σ1 h rfl h1
    exact ih (fun p hp => hfuel p (.tail _ hp)) σ1 σ' hc1 hr

/-- The gradient cell of a node is only ever changed by adding the delta the node is entered with:
    accumulation is additive by construction of `storeGrad` (`old + delta`, or `delta` when empty). -/
theorem C10_store_adds (n : Nat) (x : Tensor S) (σ σ' : EState S) (h : storeGrad n x σ = .ok σ') :
    (∀ m, m ≠ n → σ'.grad m = σ.grad m) ∧
    (σ.grad n = none → σ'.grad n = some x) ∧
    (∀ g, σ.grad n = some g → ∃ s, add g x = .ok s ∧ σ'.grad n = some s) := by
  obtain ⟨g, hm, rfl⟩ := storeGrad_ok h
  refine ⟨fun m hm' => upd_of_ne _ _ hm', fun hn => ?_, fun g0 hg => ⟨g, ?_, upd_self ..⟩⟩
  · rw [hn] at hm; cases hm; exact upd_self ..
  · rw [hg] at hm; exact hm

/-- the sum of the path sums of the passes (root, seed) -/
def passSum [AddLaws S] {G : Graph S} (sem : Sem G) (ℓ j : Nat) : List (Nat × Tensor S) → S
  | [] => zero
  | (root, x) :: ps => P sem ℓ j root x + passSum sem ℓ j ps

def runSeeded (G : Graph S) (κ : Nat → Bool) (fuel : Nat) : List (Nat × Tensor S) → EState S → R (EState S)
  | [], σ => pure σ
  | (root, x) :: ps, σ => do
    let σ1 ← backward G fuel root x.dims (κ root) (some x) { σ with log := [] }
    runSeeded G κ fuel ps σ1

/-- **Accumulation is additive over any sequence of passes.**  Run any list of passes (root and seed
    per pass: the same result again, an interior node and later a result containing it, results
    sharing sub-graphs) from a clean state: coordinate `j` of the gradient of `ℓ` ends as its starting
    value plus the sum of the path sums of the individual passes — what each pass would have added
    alone — independently of what ran before. -/
theorem C10_additive [AddLaws S] {G : Graph S} (sem : Sem G) (wf : G.WF) (lawful : G.Lawful) (ℓ j fuel : Nat)
    (hkeep : ∀ n s, s ∈ G.kids n → s.tracked = true → s.node = ℓ → ((G.kids ℓ).isEmpty || s.keep) = stores sem ℓ)
    (ps : List (Nat × Tensor S)) (hfuel : ∀ p ∈ ps, p.1 < fuel) (hshape : ∀ p ∈ ps, Shaped (sem.dimsOf p.1) p.2) :
    ∀ (σ σ' : EState S), σ.Clean → (∀ g, σ.grad ℓ = some g → Shaped (sem.dimsOf ℓ) g) →
      runSeeded G sem.κ fuel ps σ = .ok σ' →
      gradVal ℓ j σ' = gradVal ℓ j σ + passSum sem ℓ j ps ∧ σ'.Clean := by
  induction ps with
  | nil =>
    intro σ σ' hc _ hr
    obtain rfl : σ = σ' := Except.ok.inj hr
    exact ⟨(add_zero' _).symm, hc⟩
  | cons p ps ih =>
    obtain ⟨root, x⟩ := p
    intro σ σ' hc hg hr
    obtain ⟨σ1, h1, hr⟩ := bindOk hr
    have hx := hshape (root, x) (.head _)
    have hf := hfuel (root, x) (.head _)
    have hps := backward_pathsum sem ℓ j wf hkeep lawful fuel root hf x.dims (some x) { σ with log := [] } σ1 hc rfl hg x rfl hx h1
    have hc1 := (backward_counts G wf lawful fuel root hf x.dims (sem.κ root) (some x) { σ with log := [] } σ1 hc rfl h1).1
    obtain ⟨e2, hc2⟩ := ih (fun p hp => hfuel p (.tail _ hp)) (fun p hp => hshape p (.tail _ hp)) σ1 σ' hc1 hps.2 hr
    refine ⟨?_, hc2⟩
    rw [e2, hps.1]
    exact AddLaws.add_assoc ..

/-- **No residue, in every reachable state.**  After *any* history of commands from the empty
    program — any mixture of operations, passes on the same result again, on results sharing
    sub-graphs, on interior nodes, seeds of every shape, optimizer updates, layer and model commands,
    commands that panicked — every counter is zero and no delta is pending.  No hypothesis about the
    graph: well-foundedness and lawfulness of the recorded closures are themselves invariants of the
    command language (`reachable_good`). -/
theorem C10_clean_reachable (cs : List (Cmd S)) :
    (∀ i, (run cs ({} : State S)).cnt.getD i 0 = 0) ∧ (∀ i, (run cs ({} : State S)).delta.getD i none = none) :=
  (reachable_good cs).heap.clean

/-- and the pass itself, started in any reachable state on any bound array with any seed, ends clean -/
theorem C10_pass_clean_reachable {σ σ' : State S} (hr : Reachable σ) (v : String) (h : Handle)
    (seed : Option (Tensor S)) (hg : σ.get v = .ok h) (hok : σ.backward h seed = .ok σ') :
    (∀ i, σ'.cnt.getD i 0 = 0) ∧ (∀ i, σ'.delta.getD i none = none) :=
  (good_backward hr.good (hr.good.get hg) seed hok).heap.clean

/-- **Additive accumulation of the stored closures' gradients.**  In any good state that passes the shape
    check (`ShapeOK`; see C01), any list of passes (roots and seeds of the roots' shapes) leaves on any leaf `ℓ`
    its starting gradient plus the sum of the path sums of the individual passes, with `Λ` = the stored
    closures' own answers — no assumption about the operations — and ends clean. -/
theorem C10_additive_stored_closures [AddLaws S] [MulLaws S] [CommLaws S] {σ : State S} (g : Good σ) (hs : ShapeOK σ)
    (ℓ j : Nat) (hleaf : σ.graph.kids ℓ = []) (keep : Bool) (ps : List (Nat × Tensor S))
    (hroots : ∀ p ∈ ps, p.1 < σ.nodes.size) (hshape : ∀ p ∈ ps, Shaped (σ.dimsOf p.1) p.2)
    (hg : ∀ t, σ.estate.grad ℓ = some t → Shaped (σ.dimsOf ℓ) t) (e : EState S)
    (hrun : runSeeded σ.graph (fun _ => keep) (σ.nodes.size + 1) ps σ.estate = .ok e) :
    gradVal ℓ j e = gradVal ℓ j σ.estate + passSum (σ.sem (fun _ => keep) g.heap hs) ℓ j ps ∧ e.Clean :=
  C10_additive (σ.sem (fun _ => keep) g.heap hs) (graph_wf σ g.heap) (graph_lawful σ g.heap) ℓ j (σ.nodes.size + 1)
    (leaf_keep _ ℓ hleaf) ps (fun p hp => Nat.lt_succ_of_lt (hroots p hp)) hshape
    σ.estate e (estate_clean σ g.heap) hg hrun

end Corgi

#print axioms Corgi.C10_additive_stored_closures
#print axioms Corgi.C10_additive
#print axioms Corgi.C10_clean
#print axioms Corgi.C10_clean_history
#print axioms Corgi.C10_store_adds
#print axioms Corgi.C10_clean_reachable
#print axioms Corgi.C10_pass_clean_reachable
