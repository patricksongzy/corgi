/-
  C01 — Reverse-mode gradients are exact on arbitrary computation graphs.

  `C01_backward_pathsum`: on every well-founded graph (any fan-out, diamonds, self-products, any depth;
  data-dependent control flow only decides *which* graph was recorded) with lawful closures whose
  per-operand contributions `Λ n i` are additive and shape-correct, a pass that completes from a clean
  state leaves on every node `ℓ` — in particular on every tracked leaf —
      grad'(ℓ)[j] = grad(ℓ)[j] + P root ℓ seed [j],
  where `P` is the sum over all tracked paths from the root to `ℓ` of the composed contributions
  (`Pf_unfold`): every path exactly once, none dropped, none counted twice.  With `Λ n i` = the
  transpose-Jacobian of operation `n` with respect to operand `i` (C02), the right-hand side is the
  seed-weighted sum of partial derivatives (chain rule).
  `C01_every_path_once`: the value-free half (exactly once / consumers first / nothing else touched).
-/
import CorgiProofs.ShapeCheckSound

set_option linter.unusedSectionVars false

namespace Corgi
variable {S : Type} [Add S] [Mul S] [Neg S] [Sub S] [ScalarOps S] [BEq S]

theorem C01_every_path_once (G : Graph S) (wf : G.WF) (lawful : G.Lawful) (fuel root : Nat)
    (hf : root < fuel) (dims : List Nat) (keep : Bool) (seed : Option (Tensor S)) (σ σ' : EState S)
    (hclean : σ.Clean) (hlog : σ.log = []) (hok : backward G fuel root dims keep seed σ = .ok σ') :
    (logN σ').Nodup ∧ (∀ m, m ∈ logN σ' ↔ Reach G root m) ∧ LogOrder G root (logN σ') ∧
    (∀ m, ¬ Reach G root m → σ'.grad m = σ.grad m) ∧ σ'.Clean := by
  have hc := backward_counts G wf lawful fuel root hf dims keep seed σ σ' hclean hlog hok
  exact ⟨hc.2.1, hc.2.2.1, hc.2.2.2, backward_untouched G wf lawful fuel root hf dims keep seed σ σ' hclean hlog hok, hc.1⟩

/-- **The gradient left on `ℓ` is the path sum of the seed** (coordinate by coordinate). -/
theorem C01_backward_pathsum [AddLaws S] {G : Graph S} (sem : Sem G) (wf : G.WF) (lawful : G.Lawful)
    (ℓ j fuel root : Nat) (hkeep : ∀ n s, s ∈ G.kids n → s.tracked = true → s.node = ℓ → ((G.kids ℓ).isEmpty || s.keep) = stores sem ℓ)
    (hf : root < fuel) (dims : List Nat) (seed : Option (Tensor S)) (σ σ' : EState S)
    (hclean : σ.Clean) (hlog : σ.log = []) (hg : ∀ g, σ.grad ℓ = some g → Shaped (sem.dimsOf ℓ) g)
    (x : Tensor S) (hseed : seedOrOnes seed dims = .ok x) (hxs : Shaped (sem.dimsOf root) x)
    (hok : backward G fuel root dims (sem.κ root) seed σ = .ok σ') :
    gradVal ℓ j σ' = gradVal ℓ j σ + P sem ℓ j root x :=
  (backward_pathsum sem ℓ j wf hkeep lawful fuel root hf dims seed σ σ' hclean hlog hg x hseed hxs hok).1

/-- What the path sum is: the delta itself where the node stores its gradient, plus the path sums of
    the contributions to every tracked stored operand — i.e. the sum over all tracked paths. -/
theorem C01_pathsum_unfold [AddLaws S] {G : Graph S} (sem : Sem G) (wf : G.WF) (ℓ j m : Nat) (x : Tensor S) :
    P sem ℓ j m x = (if m = ℓ ∧ stores sem m = true then coord j x.vals else zero)
      + sumSlots sem (P sem ℓ j) m x (G.kids m) 0 := Pf_unfold sem ℓ j wf m x

/-- A tracked leaf stores its gradient (`stores` is true for every node without stored operands). -/
theorem C01_leaf_stores {G : Graph S} (sem : Sem G) (m : Nat) (h : G.kids m = []) : stores sem m = true := by
  rw [stores, h]; rfl

/-- the gradient stored afterwards has exactly the node's shape (C03 for the observed cell) -/
theorem C01_grad_shape [AddLaws S] {G : Graph S} (sem : Sem G) (wf : G.WF) (lawful : G.Lawful)
    (ℓ fuel root : Nat) (hkeep : ∀ n s, s ∈ G.kids n → s.tracked = true → s.node = ℓ → ((G.kids ℓ).isEmpty || s.keep) = stores sem ℓ)
    (hf : root < fuel) (dims : List Nat) (seed : Option (Tensor S)) (σ σ' : EState S)
    (hclean : σ.Clean) (hlog : σ.log = []) (hg : ∀ g, σ.grad ℓ = some g → Shaped (sem.dimsOf ℓ) g)
    (x : Tensor S) (hseed : seedOrOnes seed dims = .ok x) (hxs : Shaped (sem.dimsOf root) x)
    (hok : backward G fuel root dims (sem.κ root) seed σ = .ok σ') :
    ∀ g, σ'.grad ℓ = some g → Shaped (sem.dimsOf ℓ) g :=
  (backward_pathsum sem ℓ 0 wf hkeep lawful fuel root hf dims seed σ σ' hclean hlog hg x hseed hxs hok).2

/-- **Every path once, in every reachable state**: the value-free half holds for the pass on any
    bound array in the state after any history of commands, with no assumption about the graph. -/
theorem C01_every_path_once_reachable {σ σ' : State S} (hr : Reachable σ) (v : String) (h : Handle)
    (seed : Option (Tensor S)) (hg : σ.get v = .ok h) (hok : σ.backward h seed = .ok σ') :
    ∃ e : EState S, σ' = σ.withEState e ∧ σ.graph.WF ∧ σ.graph.Lawful ∧ σ.estate.Clean ∧
      (logN e).Nodup ∧ (∀ m, m ∈ logN e ↔ Reach σ.graph h.node m) ∧ LogOrder σ.graph h.node (logN e) ∧ e.Clean := by
  obtain ⟨e, _, he, hwf, hl, hc, h1, h2, h3⟩ := good_backward_counts hr.good (hr.good.get hg) seed hok
  exact ⟨e, he, hwf, hl, estate_clean σ hr.good.heap, h1, h2, h3, hc⟩

/-- **The path-sum theorem in every reachable state**: the structural hypotheses of
    `C01_backward_pathsum` (well-founded, lawful, clean start) are discharged by the reachability
    invariant; what remains assumed is `Sem` — the per-operation value laws (C02). -/
theorem C01_backward_pathsum_reachable [AddLaws S] {σ : State S} (hr : Reachable σ) (sem : Sem σ.graph)
    (ℓ j : Nat) (hkeep : ∀ n s, s ∈ σ.graph.kids n → s.tracked = true → s.node = ℓ → ((σ.graph.kids ℓ).isEmpty || s.keep) = stores sem ℓ)
    (v : String) (h : Handle) (seed : Option (Tensor S)) (hg : σ.get v = .ok h)
    (hk : σ.graph.kids h.node = [] ∨ h.keep = sem.κ h.node)
    (hgr : ∀ g, σ.estate.grad ℓ = some g → Shaped (sem.dimsOf ℓ) g)
    (x : Tensor S) (hseed : seedOrOnes seed h.dims = .ok x) (hxs : Shaped (sem.dimsOf h.node) x)
    (e : EState S) (hok : Corgi.backward σ.graph (σ.nodes.size + 1) h.node h.dims h.keep seed σ.estate = .ok e) :
    gradVal ℓ j e = gradVal ℓ j σ.estate + P sem ℓ j h.node x := by
  have hv := hr.good.get hg
  have hok : Corgi.backward σ.graph (σ.nodes.size + 1) h.node h.dims (sem.κ h.node) seed σ.estate = .ok e := by
    rcases hk with hleaf | hk
    · rw [← hok]; exact backward_leaf_keep _ _ _ _ _ _ _ _ hleaf
    · rw [← hk]; exact hok
  exact (backward_pathsum sem ℓ j (graph_wf σ hr.good.heap) hkeep (graph_lawful σ hr.good.heap) (σ.nodes.size + 1) h.node
    (Nat.lt_succ_of_lt hv.1) h.dims seed σ.estate e (estate_clean σ hr.good.heap) rfl hgr x hseed hxs hok).1

/-- **For a leaf no assumption about keep flags is left**: a node without stored operands always
    stores its gradient, so the keep-flag hypothesis of the path-sum theorem is vacuous — whatever mixture
    of `tracked()`, `start_tracking()`, clones and re-flagged handles built the graph. -/
theorem C01_leaf_needs_no_keep [AddLaws S] {G : Graph S} (sem : Sem G) (ℓ : Nat) (hleaf : G.kids ℓ = []) :
    ∀ n s, s ∈ G.kids n → s.tracked = true → s.node = ℓ → ((G.kids ℓ).isEmpty || s.keep) = stores sem ℓ :=
  leaf_keep sem ℓ hleaf

/-- **The path-sum theorem with nothing assumed about the operations.**  In any good state (so: after any
    history of commands) whose recorded nodes store operands of the shapes their forward operations left
    them with (`ShapeOK`: every node's tag is one of the closures proved linear in `LinearTags`), a pass
    from any valid handle `h` with a seed of `h`'s shape leaves on a leaf `ℓ`, coordinate by coordinate,
    its previous gradient plus the sum over all tracked paths from `h` to `ℓ` of the composed
    contributions — where the contribution `Λ n i` along an edge is *the stored closure's own `i`-th
    answer*, reduced by `flatten_to` (`State.sem_Λ`), not an assumed law. -/
theorem C01_pathsum_of_stored_closures [AddLaws S] [MulLaws S] [CommLaws S] {σ : State S} (g : Good σ) (hs : ShapeOK σ)
    (ℓ j : Nat) (hleaf : σ.graph.kids ℓ = []) (h : Handle) (hv : h.Valid σ) (seed : Option (Tensor S))
    (hgr : ∀ t, σ.estate.grad ℓ = some t → Shaped (σ.dimsOf ℓ) t)
    (x : Tensor S) (hseed : seedOrOnes seed h.dims = .ok x) (hxs : Shaped (σ.dimsOf h.node) x)
    (e : EState S) (hok : Corgi.backward σ.graph (σ.nodes.size + 1) h.node h.dims h.keep seed σ.estate = .ok e) :
    gradVal ℓ j e = gradVal ℓ j σ.estate + P (σ.sem (fun _ => h.keep) g.heap hs) ℓ j h.node x :=
  (backward_pathsum (σ.sem (fun _ => h.keep) g.heap hs) ℓ j (graph_wf σ g.heap)
    (leaf_keep _ ℓ hleaf) (graph_lawful σ g.heap) (σ.nodes.size + 1) h.node
    (Nat.lt_succ_of_lt hv.1) h.dims seed σ.estate e (estate_clean σ g.heap) rfl hgr x hseed hxs hok).1

/-- … and the gradient it leaves has the leaf's shape -/
theorem C01_grad_shape_of_stored_closures [AddLaws S] [MulLaws S] [CommLaws S] {σ : State S} (g : Good σ) (hs : ShapeOK σ)
    (ℓ : Nat) (hleaf : σ.graph.kids ℓ = []) (h : Handle) (hv : h.Valid σ) (seed : Option (Tensor S))
    (hgr : ∀ t, σ.estate.grad ℓ = some t → Shaped (σ.dimsOf ℓ) t)
    (x : Tensor S) (hseed : seedOrOnes seed h.dims = .ok x) (hxs : Shaped (σ.dimsOf h.node) x)
    (e : EState S) (hok : Corgi.backward σ.graph (σ.nodes.size + 1) h.node h.dims h.keep seed σ.estate = .ok e) :
    ∀ t, e.grad ℓ = some t → Shaped (σ.dimsOf ℓ) t :=
  (backward_pathsum (σ.sem (fun _ => h.keep) g.heap hs) ℓ 0 (graph_wf σ g.heap)
    (leaf_keep _ ℓ hleaf) (graph_lawful σ g.heap) (σ.nodes.size + 1) h.node
    (Nat.lt_succ_of_lt hv.1) h.dims seed σ.estate e (estate_clean σ g.heap) rfl hgr x hseed hxs hok).2

/-- **The hypothesis is decided at run time.**  `shapeOKb` is an executable check of `ShapeOK` (sound:
    `shapeOKb_sound`); the model driver evaluates it on the state before every pass of every correspondence
    run, so for each executed pass on which it answers `ok` — and the runs tie the model's states to the
    implementation's — the path-sum statement below holds with no assumption left about the operations. -/
theorem C01_pathsum_when_check_passes [AddLaws S] [MulLaws S] [CommLaws S] {σ : State S} (g : Good σ) (hb : shapeOKb σ = true)
    (ℓ j : Nat) (hleaf : σ.graph.kids ℓ = []) (h : Handle) (hv : h.Valid σ) (seed : Option (Tensor S))
    (hgr : ∀ t, σ.estate.grad ℓ = some t → Shaped (σ.dimsOf ℓ) t)
    (x : Tensor S) (hseed : seedOrOnes seed h.dims = .ok x) (hxs : Shaped (σ.dimsOf h.node) x)
    (e : EState S) (hok : Corgi.backward σ.graph (σ.nodes.size + 1) h.node h.dims h.keep seed σ.estate = .ok e) :
    gradVal ℓ j e = gradVal ℓ j σ.estate
      + P (σ.sem (fun _ => h.keep) g.heap (shapeOKb_sound σ hb)) ℓ j h.node x :=
  C01_pathsum_of_stored_closures g (shapeOKb_sound σ hb) ℓ j hleaf h hv seed hgr x hseed hxs e hok

end Corgi

#print axioms Corgi.C01_every_path_once
#print axioms Corgi.C01_backward_pathsum
#print axioms Corgi.C01_pathsum_unfold
#print axioms Corgi.C01_leaf_stores
#print axioms Corgi.C01_grad_shape
#print axioms Corgi.C01_every_path_once_reachable
#print axioms Corgi.C01_backward_pathsum_reachable
#print axioms Corgi.C01_leaf_needs_no_keep
#print axioms Corgi.C01_pathsum_of_stored_closures
#print axioms Corgi.C01_grad_shape_of_stored_closures
#print axioms Corgi.C01_pathsum_when_check_passes
