/-
  C05 — Matrix multiplication computes the batched, optionally transposed product.

  For well-formed operands of rank ≥ 2, for all leading (batch) dimensions, matrix sizes and both
  transpose flags, `matmul` = the specification `specMatmul` (dimensions and every entry), without
  additive term (`C05_product`), with a bias row (`C05_bias`, the dense layer's call) and with a matrix
  additive term broadcast over batches / rows (`C05_addterm`); mismatching inner dimensions and
  incompatible batch dimensions are refused (`C05_refuses_inner`, `C05_refuses_leading`).
-/
import CorgiProofs.ConvAt

set_option linter.unusedSectionVars false

namespace Corgi
variable {S : Type} [Add S] [Mul S] [Neg S] [Sub S] [ScalarOps S]

/-- One entry of the per-batch product is the initial value (the additive term) plus the sum over
    the inner index of the transposed-indexed products — by definition of the triple loop. -/
theorem C05_entry (rows cols sumLen : Nat) (a b : List S) (ta tb : Bool) (init : S) (r j : Nat)
    (terms : Nat → S)
    (h : ∀ k, k < sumLen → ∃ x y, a[if ta then k * rows + r else r * sumLen + k]? = some x ∧
        b[if tb then j * sumLen + k else k * cols + j]? = some y ∧ terms k = x * y) :
    matmulEntry rows cols sumLen a ta b tb init r j = .ok (init + sumList ((List.range sumLen).map terms)) :=
  matmulEntry_ok rows cols sumLen a b ta tb init r j terms h

/-- **The product.**  `a : la ++ [a1, a2]`, `b : lb ++ [b1, b2]` well-formed, `la`/`lb` broadcast
    compatible, inner dimensions (after the flags) equal: the result is the specification —
    dimensions `bdims la lb ++ [rows, cols]`, entry `[L.., r, j] = Σ_t a[L↓.., r, t] · b[L↓.., t, j]`
    with the flagged operand's last two indices swapped and `L↓` the batch index projected onto the
    operand (index 0 along its unit dimensions, surplus leading positions dropped). -/
theorem C05_product (a b : Tensor S) (ta tb : Bool) (la lb : List Nat) (a1 a2 b1 b2 : Nat)
    (hda : a.dims = la ++ [a1, a2]) (hdb : b.dims = lb ++ [b1, b2]) (hwa : a.WF) (hwb : b.WF)
    (hc : Compat la lb = true) (hinner : (if ta then a1 else a2) = (if tb then b2 else b1)) :
    matmul a ta b tb none = .ok (specMatmul a ta b tb none) :=
  matmul_spec_none a b ta tb la lb a1 a2 b1 b2 hda hdb hwa hwb hc hinner

/-- **With a bias row**: a rank-1 additive term with one value per output column is added to every
    row of every batch (the call a dense layer makes). -/
theorem C05_bias (a b c : Tensor S) (ta tb : Bool) (la lb : List Nat) (a1 a2 b1 b2 : Nat)
    (hda : a.dims = la ++ [a1, a2]) (hdb : b.dims = lb ++ [b1, b2]) (hwa : a.WF) (hwb : b.WF)
    (hc : Compat la lb = true) (hinner : (if ta then a1 else a2) = (if tb then b2 else b1))
    (hdc : c.dims = [if tb then b1 else b2]) (hwc : c.WF) :
    matmul a ta b tb (some c) = .ok (specMatmul a ta b tb (some c)) :=
  matmul_spec_bias a b c ta tb la lb a1 a2 b1 b2 hda hdb hwa hwb hc hinner hdc hwc

/-- **With a matrix additive term** of dimensions `cl ++ [c1, cols]`, `c1 ∈ {1, rows}`, `cl` fitting
    the batch dimensions: broadcast over batches and, when `c1 = 1`, over rows. -/
theorem C05_addterm (a b c : Tensor S) (ta tb : Bool) (la lb cl : List Nat) (a1 a2 b1 b2 c1 : Nat)
    (hda : a.dims = la ++ [a1, a2]) (hdb : b.dims = lb ++ [b1, b2]) (hwa : a.WF) (hwb : b.WF)
    (hc : Compat la lb = true) (hinner : (if ta then a1 else a2) = (if tb then b2 else b1))
    (hdc : c.dims = cl ++ [c1, if tb then b1 else b2]) (hwc : c.WF)
    (hc1 : c1 = 1 ∨ c1 = (if ta then a2 else a1)) (hfc : Fits cl (bdims la lb) = true) :
    matmul a ta b tb (some c) = .ok (specMatmul a ta b tb (some c)) :=
  matmul_spec_addterm a b c ta tb la lb cl a1 a2 b1 b2 c1 hda hdb hwa hwb hc hinner hdc hwc hc1 hfc

/-- the result's dimensions, read off the specification -/
theorem C05_shape (a b : Tensor S) (ta tb : Bool) (c : Option (Tensor S)) (la lb : List Nat) (a1 a2 b1 b2 : Nat)
    (hda : a.dims = la ++ [a1, a2]) (hdb : b.dims = lb ++ [b1, b2]) :
    (specMatmul a ta b tb c).dims = bdims la lb ++ [if ta then a2 else a1, if tb then b1 else b2] :=
  specMatmul_dims_snoc2 a b ta tb c la lb a1 a2 b1 b2 hda hdb

/-- mismatching inner dimensions are refused (never a value) -/
theorem C05_refuses_inner (a b : Tensor S) (ta tb : Bool) (c : Option (Tensor S)) (la lb : List Nat) (a1 a2 b1 b2 : Nat)
    (hda : a.dims = la ++ [a1, a2]) (hdb : b.dims = lb ++ [b1, b2])
    (hinner : (if ta then a1 else a2) ≠ (if tb then b2 else b1)) :
    ∃ p, matmul a ta b tb c = .error p := by
  unfold matmul
  rw [hda, hdb, matmulShape_snoc2]
  cases ewiseDims la lb with
  | error e => exact ⟨e, rfl⟩
  | ok lead =>
    have : ((if ta then a1 else a2) == (if tb then b2 else b1)) = false := by simpa using hinner
    exact ⟨.innerMismatch, by simp only [ok_bind, this]; rfl⟩

/-- incompatible batch dimensions are refused -/
theorem C05_refuses_leading (a b : Tensor S) (ta tb : Bool) (c : Option (Tensor S)) (la lb : List Nat) (a1 a2 b1 b2 : Nat)
    (hda : a.dims = la ++ [a1, a2]) (hdb : b.dims = lb ++ [b1, b2]) (hc : Compat la lb = false) :
    matmul a ta b tb c = .error .incompatible := by
  unfold matmul
  rw [hda, hdb, matmulShape_snoc2, ewiseDims_spec, hc]
  rfl

/-- **A rank-1 operand next to a rank ≥ 2 operand behaves as a one-row matrix**: with agreeing inner
    dimensions, `matmul` of the vector is, literally, `matmul` of the `1 × k` matrix with the same
    values — whose value is given by `C05_product`. -/
theorem C05_rank1_left (av : List S) (k : Nat) (b : Tensor S) (tb : Bool) (lb : List Nat) (b1 b2 : Nat)
    (hdb : b.dims = lb ++ [b1, b2]) (hinner : k = if tb then b2 else b1) :
    matmul (⟨[k], av⟩ : Tensor S) false b tb none = matmul (⟨[1, k], av⟩ : Tensor S) false b tb none :=
  matmul_rank1_left av k b tb lb b1 b2 hdb hinner

/-- …hence the value: the one-row product of the specification. -/
theorem C05_rank1_left_value (av : List S) (k : Nat) (b : Tensor S) (tb : Bool) (lb : List Nat) (b1 b2 : Nat)
    (hdb : b.dims = lb ++ [b1, b2]) (hinner : k = if tb then b2 else b1)
    (hwa : (⟨[1, k], av⟩ : Tensor S).WF) (hwb : b.WF) :
    matmul (⟨[k], av⟩ : Tensor S) false b tb none = .ok (specMatmul (⟨[1, k], av⟩ : Tensor S) false b tb none) := by
  rw [matmul_rank1_left av k b tb lb b1 b2 hdb hinner]
  exact matmul_spec_none _ b false tb [] lb 1 k b1 b2 rfl hdb hwa hwb (Compat_nil_left lb) (by simpa using hinner)

/-- **Two untransposed rank-1 operands give their dot product**, as a one-element array. -/
theorem C05_dot (av bv : List S) (k : Nat) (hk : 1 ≤ k) (ha : av.length = k) (hb : bv.length = k) :
    matmul (⟨[k], av⟩ : Tensor S) false ⟨[k], bv⟩ false none
      = .ok ⟨[1], [zero + sumList ((List.range k).map (fun t => av.getD t zero * bv.getD t zero))]⟩ :=
  matmul_dot av bv k hk ha hb

/-! non-vacuity: a batched, transposed instance meets every hypothesis of `C05_product` / `C05_bias` -/
example : Compat [1, 2] [2, 1] = true ∧ bdims [1, 2] [2, 1] = [2, 2] := by decide
example : (⟨[2, 1, 2, 3], List.replicate 12 (1 : Int)⟩ : Tensor Int).WF := by
  refine ⟨by decide, by decide⟩
example : (if true then 2 else 3) = (if false then 5 else 2) := by decide

/-- **Single elements at any size.**  The `matmulat` command of the correspondence check (the implementation
    computes the whole product and indexes it; the model evaluates only `matmulElem`, the specification's
    sum at that index) compares the implementation with the model's own `matmul`: for well-formed operands of
    rank ≥ 2 (compatible batch dimensions, agreeing inner dimensions, no additive term or a bias row) and every
    in-range index, indexing the model's result gives exactly `matmulElem` — at matrix sizes where building
    the model's whole result is out of reach. -/
theorem C05_matmulat [BEq S] (a b : Tensor S) (ta tb : Bool) (c : Option (Tensor S)) (i : List Nat)
    (hv : matmulValidB a ta b tb c = true) (hi : inRange (matmulOutDims a ta b tb) i = true) :
    ∃ t, matmul a ta b tb c = .ok t ∧ t.index i = .ok (matmulElem a ta b tb c i) :=
  matmulat_spec a b ta tb c i hv hi

end Corgi

#print axioms Corgi.C05_matmulat
#print axioms Corgi.C05_entry
#print axioms Corgi.C05_product
#print axioms Corgi.C05_bias
#print axioms Corgi.C05_addterm
#print axioms Corgi.C05_shape
#print axioms Corgi.C05_refuses_inner
#print axioms Corgi.C05_refuses_leading
#print axioms Corgi.C05_rank1_left
#print axioms Corgi.C05_rank1_left_value
#print axioms Corgi.C05_dot
