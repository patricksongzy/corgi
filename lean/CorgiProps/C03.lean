/-
  C03 — Gradients have their array's shape; broadcast contributions are summed.
-/
import CorgiProofs.EngineProcess
import CorgiProofs.FlattenTo
import CorgiProofs.Instances

set_option linter.unusedSectionVars false

namespace Corgi
variable {S : Type} [Add S] [Mul S] [Neg S] [Sub S] [ScalarOps S] [BEq S] [LawfulBEq S]

/-- Whatever `flatten_to` returns has exactly the requested dimensions. -/
theorem C03_flatten_dims (d : Tensor S) (dims : List Nat) (t : Tensor S)
    (h : flattenTo d dims = .ok t) : t.dims = dims := by
  unfold flattenTo at h
  split at h
  · cases h; exact eq_of_beq ‹_›
  · obtain ⟨vals, -, h⟩ := bindOk h
    rw [(Tensor.mk?_eq_ok_iff.mp h).2.2]

/-- **Every contribution is reduced, the first and every later one.**  In the delivery loop the delta
    handed to an operand always passes through `flatten_to` with the operand's own dimensions before
    it is stored or added to the pending delta: after a successful delivery step the operand's
    pending delta is `mergeDelta old d'` for some `d'` of exactly the operand's dimensions. -/
theorem C03_every_contribution_reduced (rec : Nat → Bool → EState S → R (EState S)) (s : Slot)
    (ss : List Slot) (d : Tensor S) (ds : List (Option (Tensor S))) (σ σ' : EState S)
    (h : deliver rec (s :: ss) (some d :: ds) σ = .ok σ') :
    ∃ d' nd, flattenTo d s.dims = .ok d' ∧ d'.dims = s.dims ∧ mergeDelta (σ.delta s.node) d' = .ok nd := by
  obtain ⟨d', nd, _, h1, h2, _⟩ := deliver_some_ok h
  exact ⟨d', nd, h1, C03_flatten_dims d s.dims d' h1, h2⟩

/-- The first contribution *is* the reduced delta, so it has the operand's dimensions. -/
theorem C03_first_contribution (d' nd : Tensor S) (h : mergeDelta none d' = .ok nd) : nd = d' := by
  simp [mergeDelta] at h; exact h.symm

/-- **Broadcast contributions are summed.**  For every well-formed delta and every operand shape
    that fits it (right-aligned, each dimension `1` or equal, not longer) and differs from it, the
    reduced delta has the operand's dimensions and holds, at each position `q` of the operand, the sum
    (in the delta's row-major order) of the delta's values at *all* positions that project onto `q` —
    none dropped, none taken twice; with equal dimensions the delta is passed through unchanged. -/
theorem C03_reduction_is_sum (t : Tensor S) (target : List Nat) (hwf : t.WF) (hne : (t.dims == target) = false)
    (hfit : Fits target t.dims = true) (hpos : ∀ d ∈ target, 1 ≤ d) :
    flattenTo t target = .ok (sumBroadcast t target) := flattenTo_spec t target hwf hne hfit hpos

theorem C03_same_shape_unchanged (t : Tensor S) (target : List Nat) (h : (t.dims == target) = true) :
    flattenTo t target = .ok t := flattenTo_eqdims t target h

/-! non-vacuity: a `[2,3]` delta reduced onto a `[1,3]` (bias-like) and a `[3]` operand -/
example : Fits [1, 3] [2, 3] = true ∧ Fits [3] [2, 3] = true ∧ ([2, 3] == [1, 3]) = false := by decide
example : (sumBroadcast (⟨[2, 3], [1, 2, 3, 10, 20, 30]⟩ : Tensor Int) [1, 3]).vals = [11, 22, 33] := by decide

end Corgi

#print axioms Corgi.C03_flatten_dims
#print axioms Corgi.C03_every_contribution_reduced
#print axioms Corgi.C03_first_contribution
#print axioms Corgi.C03_reduction_is_sum
#print axioms Corgi.C03_same_shape_unchanged
