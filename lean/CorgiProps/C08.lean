/-
  C08 — Arrays are immutable: no operation changes an existing array's values or shape.
-/
import CorgiProofs.HeapStep

set_option linter.unusedSectionVars false

namespace Corgi
variable {S : Type} [Add S] [Mul S] [Neg S] [Sub S] [ScalarOps S] [BEq S]

/-- **Every command.**  Whatever the command (construction, any forward operation, flag setters,
    clone / drop / re-bind, a backward pass with its gradient accumulation, gradient fetch / clear /
    set, optimizer and model updates, layer and model forwards, …) and whatever the state: every
    buffer that existed before still exists afterwards with the same content. -/
theorem C08_step (σ : State S) (c : Cmd S) : BufExt σ (step σ c).1 := (step_step σ c).ext

/-- **Every history.** -/
theorem C08_history (cs : List (Cmd S)) (σ : State S) : BufExt σ (cs.foldl (fun s c => (step s c).1) σ) :=
  run_bufExt cs σ

/-- A handle is a value `(dims, buffer id, …)`: what it denotes depends on its dimensions and on the
    content of its buffer only.  So every handle that was valid before — a live name, a clone, a
    reshaped view, an operand recorded inside a graph, a previously fetched gradient — denotes the
    same dimensions and values after any command and after any history. -/
theorem C08_handle_stable (σ σ' : State S) (h : Handle) (hext : BufExt σ σ') (hb : h.buf < σ.bufs.size) :
    σ'.tensorOf h = σ.tensorOf h := tensorOf_ext hext h hb

theorem C08_immutable (cs : List (Cmd S)) (σ : State S) (h : Handle) (hb : h.buf < σ.bufs.size) :
    (cs.foldl (fun s c => (step s c).1) σ).tensorOf h = σ.tensorOf h :=
  C08_handle_stable σ _ h (C08_history cs σ) hb

/-- `GradientDescent::update` replaces parameters by **new** arrays: the buffers of the old
    parameters are unchanged, so every older handle still sees the old values. -/
theorem C08_update_fresh (σ σ' : State S) (lr : S) (ps hs : List Handle)
    (h : gdUpdate σ lr ps = .ok (σ', hs)) : BufExt σ σ' := (gdUpdate_grows h).ext

/-- A backward pass, with its gradient accumulation, touches no buffer and no handle (nor any node:
    `C09_flags_kept`). -/
theorem C08_backward (σ σ' : State S) (h : Handle) (seed : Option (Tensor S)) (hok : σ.backward h seed = .ok σ') :
    σ'.bufs = σ.bufs ∧ σ'.env = σ.env := by
  obtain ⟨e, _, rfl⟩ := State.backward_ok hok
  exact ⟨rfl, rfl⟩

/-- A reshaped view adds no buffer at all (it shares its source's). -/
theorem C08_view (σ : State S) (dims : List Nat) (buf : Nat) (kids : List Handle) (tag : Option (OpTag S))
    (attach : Bool) : (σ.allocView dims buf kids tag attach).1.bufs = σ.bufs := by rfl

end Corgi

#print axioms Corgi.C08_step
#print axioms Corgi.C08_history
#print axioms Corgi.C08_handle_stable
#print axioms Corgi.C08_immutable
#print axioms Corgi.C08_update_fresh
#print axioms Corgi.C08_backward
#print axioms Corgi.C08_view
