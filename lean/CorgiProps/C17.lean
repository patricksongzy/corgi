/-
  C17 — Gradients are linear in the seed; an omitted seed means all ones.
-/
import CorgiProofs.Instances
import CorgiProofs.LinearHeap

set_option linter.unusedSectionVars false

namespace Corgi
variable {S : Type} [Add S] [Mul S] [Neg S] [Sub S] [ScalarOps S] [BEq S]

/-- An omitted seed is a seed of ones of the handle's dimensions: the two calls are the same
    computation from the first step on. -/
theorem C17_default (G : Graph S) (fuel n : Nat) (dims : List Nat) (keep : Bool) (σ : EState S)
    (ones : Tensor S) (h : Tensor.mk? dims (List.replicate (prod dims) (one : S)) = .ok ones) :
    backward G fuel n dims keep none σ = backward G fuel n dims keep (some ones) σ := by
  unfold backward
  cases σ.delta n with
  | some _ => rfl
  | none => simp [seedOrOnes, h]

/-- …and the ones tensor exists for every well-formed shape. -/
theorem C17_ones_exists (dims : List Nat) (hpos : ∀ d ∈ dims, 1 ≤ d) :
    Tensor.mk? dims (List.replicate (prod dims) (one : S)) = .ok ⟨dims, List.replicate (prod dims) one⟩ :=
  Tensor.mk?_ok hpos List.length_replicate.symm

/-- **Additivity in the seed.**  The change of every gradient coordinate produced with the seed
    `s₁ + s₂` is the sum of the changes produced with `s₁` and with `s₂` (three passes from the same
    clean state over the same graph). -/
theorem C17_additive [AddLaws S] {G : Graph S} (sem : Sem G) (wf : G.WF) (lawful : G.Lawful)
    (ℓ j fuel root : Nat) (hkeep : ∀ n s, s ∈ G.kids n → s.tracked = true → s.node = ℓ → ((G.kids ℓ).isEmpty || s.keep) = stores sem ℓ)
    (hf : root < fuel) (dims : List Nat) (σ σ₁ σ₂ σ₃ : EState S)
    (hclean : σ.Clean) (hlog : σ.log = []) (hg : ∀ g, σ.grad ℓ = some g → Shaped (sem.dimsOf ℓ) g)
    (s₁ s₂ : Tensor S) (h₁ : Shaped (sem.dimsOf root) s₁) (h₂ : Shaped (sem.dimsOf root) s₂)
    (ok₁ : backward G fuel root dims (sem.κ root) (some s₁) σ = .ok σ₁)
    (ok₂ : backward G fuel root dims (sem.κ root) (some s₂) σ = .ok σ₂)
    (ok₃ : backward G fuel root dims (sem.κ root) (some (tadd s₁ s₂)) σ = .ok σ₃) :
    gradVal ℓ j σ₃ = gradVal ℓ j σ + (P sem ℓ j root s₁ + P sem ℓ j root s₂) ∧
    gradVal ℓ j σ₁ = gradVal ℓ j σ + P sem ℓ j root s₁ ∧
    gradVal ℓ j σ₂ = gradVal ℓ j σ + P sem ℓ j root s₂ := by
  have e₁ := (backward_pathsum sem ℓ j wf hkeep lawful fuel root hf dims (some s₁) σ σ₁ hclean hlog hg s₁ rfl h₁ ok₁).1
  have e₂ := (backward_pathsum sem ℓ j wf hkeep lawful fuel root hf dims (some s₂) σ σ₂ hclean hlog hg s₂ rfl h₂ ok₂).1
  have e₃ := (backward_pathsum sem ℓ j wf hkeep lawful fuel root hf dims (some (tadd s₁ s₂)) σ σ₃ hclean hlog hg _ rfl
    (h₁.tadd h₂) ok₃).1
  rw [P_add sem ℓ j root s₁ s₂ h₁ h₂] at e₃
  exact ⟨e₃, e₁, e₂⟩

/-- **Homogeneity.**  If every operation's contribution commutes with scaling by `α` (true of every
    built-in closure over a commutative ring: they are linear in the delta), the change produced with
    the seed `α·s` is `α` times the change produced with `s`. -/
theorem C17_homogeneous [AddLaws S] {G : Graph S} (sem : Sem G) (wf : G.WF) (lawful : G.Lawful)
    (ℓ j fuel root : Nat) (hkeep : ∀ n s, s ∈ G.kids n → s.tracked = true → s.node = ℓ → ((G.kids ℓ).isEmpty || s.keep) = stores sem ℓ)
    (hf : root < fuel) (dims : List Nat) (σ σ' : EState S)
    (hclean : σ.Clean) (hlog : σ.log = []) (hg : ∀ g, σ.grad ℓ = some g → Shaped (sem.dimsOf ℓ) g)
    (α : S) (hα0 : α * zero = zero) (hdist : ∀ a b : S, α * (a + b) = α * a + α * b)
    (hΛ : ∀ n i s x, (G.kids n)[i]? = some s → Shaped (sem.dimsOf n) x → sem.Λ n i (tsmul α x) = tsmul α (sem.Λ n i x))
    (s : Tensor S) (hs : Shaped (sem.dimsOf root) s)
    (ok : backward G fuel root dims (sem.κ root) (some (tsmul α s)) σ = .ok σ') :
    gradVal ℓ j σ' = gradVal ℓ j σ + α * P sem ℓ j root s := by
  have e := (backward_pathsum sem ℓ j wf hkeep lawful fuel root hf dims (some (tsmul α s)) σ σ' hclean hlog hg _ rfl
    (hs.tsmul α) ok).1
  rw [e]
  congr 1
  exact Pf_smul sem ℓ j α hα0 hdist hΛ (root + 1) root s hs

/-! non-vacuity: the hypotheses are satisfiable — a graph with 2^n paths, with its `Sem` -/
example : chain2.WF ∧ chain2.Lawful := ⟨chain2_wf, chain2_lawful⟩
example : Shaped (chain2Sem.dimsOf 3) (⟨[1], [5]⟩ : Tensor Int) := ⟨rfl, rfl⟩

/-- **Additivity in the seed, of the stored closures themselves.**  In any good state that passes the
    shape check (`ShapeOK`; see C01), for the gradient of any leaf `ℓ`: the change produced by a pass from
    `root` with the seed `s₁ + s₂` is the sum of the changes produced with `s₁` and with `s₂` — with no
    assumption about the operations: every built-in closure was proved additive (`vjp_lin`). -/
theorem C17_additive_stored_closures [AddLaws S] [MulLaws S] [CommLaws S] {σ : State S} (g : Good σ) (hs : ShapeOK σ)
    (ℓ j root : Nat) (hleaf : σ.graph.kids ℓ = []) (hroot : root < σ.nodes.size) (dims : List Nat) (keep : Bool)
    (hg : ∀ t, σ.estate.grad ℓ = some t → Shaped (σ.dimsOf ℓ) t)
    (s₁ s₂ : Tensor S) (h₁ : Shaped (σ.dimsOf root) s₁) (h₂ : Shaped (σ.dimsOf root) s₂) (e₁ e₂ e₃ : EState S)
    (ok₁ : backward σ.graph (σ.nodes.size + 1) root dims keep (some s₁) σ.estate = .ok e₁)
    (ok₂ : backward σ.graph (σ.nodes.size + 1) root dims keep (some s₂) σ.estate = .ok e₂)
    (ok₃ : backward σ.graph (σ.nodes.size + 1) root dims keep (some (tadd s₁ s₂)) σ.estate = .ok e₃) :
    gradVal ℓ j e₃ = gradVal ℓ j σ.estate
        + (P (σ.sem (fun _ => keep) g.heap hs) ℓ j root s₁ + P (σ.sem (fun _ => keep) g.heap hs) ℓ j root s₂) ∧
    gradVal ℓ j e₁ = gradVal ℓ j σ.estate + P (σ.sem (fun _ => keep) g.heap hs) ℓ j root s₁ ∧
    gradVal ℓ j e₂ = gradVal ℓ j σ.estate + P (σ.sem (fun _ => keep) g.heap hs) ℓ j root s₂ :=
  C17_additive (σ.sem (fun _ => keep) g.heap hs) (graph_wf σ g.heap) (graph_lawful σ g.heap) ℓ j (σ.nodes.size + 1) root
    (leaf_keep _ ℓ hleaf) (Nat.lt_succ_of_lt hroot) dims σ.estate e₁ e₂ e₃ (estate_clean σ g.heap) rfl hg
    s₁ s₂ h₁ h₂ ok₁ ok₂ ok₃

/-- **Homogeneity in the seed, of the stored closures themselves**: over a commutative ring every built-in
    closure commutes with scaling the delta (`vjp_lin`, second half), so in every good state passing the
    shape check the change produced with the seed `α·s` is `α` times the change produced with `s` — the
    hypothesis `hΛ` of `C17_homogeneous` is discharged.  With `C17_additive_stored_closures`: the gradient
    is **linear in the seed**. -/
theorem C17_homogeneous_stored_closures [AddLaws S] [MulLaws S] [CommLaws S] {σ : State S} (g : Good σ) (hs : ShapeOK σ)
    (ℓ j root : Nat) (hleaf : σ.graph.kids ℓ = []) (hroot : root < σ.nodes.size) (dims : List Nat) (keep : Bool)
    (hg : ∀ t, σ.estate.grad ℓ = some t → Shaped (σ.dimsOf ℓ) t)
    (α : S) (s : Tensor S) (h : Shaped (σ.dimsOf root) s) (e : EState S)
    (ok : backward σ.graph (σ.nodes.size + 1) root dims keep (some (tsmul α s)) σ.estate = .ok e) :
    gradVal ℓ j e = gradVal ℓ j σ.estate + α * P (σ.sem (fun _ => keep) g.heap hs) ℓ j root s :=
  C17_homogeneous (σ.sem (fun _ => keep) g.heap hs) (graph_wf σ g.heap) (graph_lawful σ g.heap) ℓ j (σ.nodes.size + 1) root
    (leaf_keep _ ℓ hleaf) (Nat.lt_succ_of_lt hroot) dims σ.estate e (estate_clean σ g.heap) rfl hg
    α (CommLaws.mul_zero α) (MulLaws.left_distrib α)
    (fun n i sl x hk hx => σ.sem_smul (fun _ => keep) g.heap hs α n i sl x hk hx) s h ok

end Corgi

#print axioms Corgi.C17_default
#print axioms Corgi.C17_ones_exists
#print axioms Corgi.C17_additive
#print axioms Corgi.C17_homogeneous
#print axioms Corgi.C17_additive_stored_closures
#print axioms Corgi.C17_homogeneous_stored_closures
