/-
  C02 — Each operation's derivative equals its mathematical definition.

  Part 1 (section `table`; proved): the scalar derivative table used by the reference (dual-number) differentiation
  is the mathematical derivative over ℝ, at every in-domain point, for every exponent.
  Part 2 (section `pointwise`; proved): over ℝ, for operands and delta of one (any valid) shape, the backward closure of
  every point-wise operation — neg, scale, powf (any exponent), ln, exp, reciprocal, relu, sigmoid,
  and add / mul / div in both operands — returns, element by element, `delta · f'(operand)` with `f'`
  the `HasDerivAt` derivative of the forward function: the transpose of the (diagonal) Jacobian
  applied to the delta (`C02_closure_*`).  A broadcast operand's contribution is then reduced by
  `flatten_to`, proved to be the sum over the broadcast positions (C03_reduction_is_sum) — the
  transpose of the broadcasting map.
  Part 3 (section `transposes`; proved, over any scalar type with the commutative-ring laws): the closures of the
  linear operations are the transposes of the forward maps, `⟨F a, x⟩ = ⟨a, Fᵀ x⟩` — sum(k), reshape, `unroll_blocks`
  (whole batches, overlapping windows), `expand_conv`, matmul of two matrices and its summation kernel for all sizes
  (`C02_*_is_transpose`).  What is not proved (matmul with batch dimensions or an additive term, the stages of
  conv composed) is decided on every run by comparing the implementation's gradients with the forward-mode
  reference (`CorgiSpec.Dual`).
  Before them: ℝ has the scalar laws the value theorems assume.  After them: a heap over ℝ with a recorded operation
  satisfies `ShapeOK`.
-/
import CorgiProofs.RealClosures
import CorgiProofs.LinearHeap
import CorgiProofs.ShapeCheckSound
import CorgiProofs.Adjoint
import CorgiProofs.AdjointMatmul
import CorgiProofs.AdjointConv

namespace Corgi

instance : AddLaws ℝ where
  add_comm := add_comm
  add_assoc := add_assoc
  zero_add := zero_add

instance : MulLaws ℝ where
  left_distrib := mul_add
  right_distrib := add_mul
  div_add := fun a b c => add_div a b c

instance : CommLaws ℝ where
  mul_comm := mul_comm
  mul_assoc := mul_assoc
  mul_zero := mul_zero
  div_smul := fun α a c => mul_div_assoc α a c

section table

theorem C02_exp (x : ℝ) : HasDerivAt Real.exp (ScalarOps.exp (⟨x, 1⟩ : Dual ℝ)).t x := by
  simpa [ScalarOps.exp] using Real.hasDerivAt_exp x

theorem C02_ln (x : ℝ) (hx : x ≠ 0) : HasDerivAt Real.log (ScalarOps.ln (⟨x, 1⟩ : Dual ℝ)).t x := by
  have := Real.hasDerivAt_log hx
  simpa [ScalarOps.ln, ScalarOps.div, one_div] using this

/-- power with **any** exponent -/
theorem C02_powf (x e : ℝ) (h : x ≠ 0 ∨ 1 ≤ e) :
    HasDerivAt (fun y : ℝ => y ^ e) (ScalarOps.powf (⟨x, 1⟩ : Dual ℝ) ⟨e, 0⟩).t x := by
  have := Real.hasDerivAt_rpow_const (p := e) h
  simpa [ScalarOps.powf, ScalarOps.one] using this

/-- the quotient rule: `(a/b)' = (a' − (a/b)·b')/b` -/
theorem C02_div (f g : ℝ → ℝ) (f' g' x : ℝ) (hf : HasDerivAt f f' x) (hg : HasDerivAt g g' x) (hx : g x ≠ 0) :
    HasDerivAt (fun y => f y / g y) (ScalarOps.div (⟨f x, f'⟩ : Dual ℝ) ⟨g x, g'⟩).t x := by
  refine (hf.div hg hx).congr_deriv ?_
  show (f' * g x - f x * g') / g x ^ 2 = (f' - f x / g x * g') / g x
  rw [div_mul_eq_mul_div, sub_div' hx, div_div, ← sq]

/-- the quotient rule with a constant numerator -/
theorem C02_recip (x : ℝ) (hx : x ≠ 0) :
    HasDerivAt (fun y : ℝ => 1 / y) (ScalarOps.div (⟨1, 0⟩ : Dual ℝ) ⟨x, 1⟩).t x :=
  C02_div (fun _ => 1) (fun y => y) 0 1 x (hasDerivAt_const x 1) (hasDerivAt_id' x) hx

theorem C02_mul (f g : ℝ → ℝ) (f' g' x : ℝ) (hf : HasDerivAt f f' x) (hg : HasDerivAt g g' x) :
    HasDerivAt (fun y => f y * g y) ((⟨f x, f'⟩ : Dual ℝ) * ⟨g x, g'⟩).t x := hf.mul hg

/-- the dual evaluation of `1/(1 + exp(−x))` gives `σ(1 − σ)` -/
theorem C02_sigmoid (x : ℝ) :
    HasDerivAt (fun y : ℝ => 1 / (1 + Real.exp (-y)))
      ((1 / (1 + Real.exp (-x))) * (1 - 1 / (1 + Real.exp (-x)))) x := by
  have h1 : HasDerivAt (fun y : ℝ => 1 + Real.exp (-y)) (Real.exp (-x) * -1) x :=
    (hasDerivAt_neg' x).exp.const_add 1
  have hpos : (1 + Real.exp (-x)) ≠ 0 := by positivity
  refine ((hasDerivAt_const x (1 : ℝ)).div h1 hpos).congr_deriv ?_
  field_simp
  ring

/-- derivative 1 on the positive side, 0 on the negative side (not differentiable at 0) -/
theorem C02_relu (x : ℝ) (hx : x ≠ 0) :
    HasDerivAt (fun y : ℝ => if 0 < y then y else 0) (if 0 < x then 1 else 0) x := by
  rcases lt_or_gt_of_ne hx with h | h
  · rw [if_neg (not_lt.mpr h.le)]
    exact (hasDerivAt_const x (0 : ℝ)).congr_of_eventuallyEq
      ((eventually_lt_nhds h).mono fun y hy => if_neg (not_lt.mpr hy.le))
  · rw [if_pos h]
    exact (hasDerivAt_id' x).congr_of_eventuallyEq ((eventually_gt_nhds h).mono fun y hy => if_pos hy)

end table

/-! The factors the closures multiply the delta by are the table entries above: the `powf` closure computes
    `e · x^(e−1) · δ` (model `Vjp.vjp (.powf e)`), the `sigmoid` closure `σ(1−σ) · δ`, `exp` `exp · δ`. -/
section pointwise

/-- over any scalar type the closure of `scale` multiplies the delta by the constant, element by element -/
theorem C02_scale_closure {S : Type} [Add S] [Mul S] [Neg S] [Sub S] [ScalarOps S] (s : S) (c : List (Tensor S))
    (self : Tensor S) (t : List Bool) (x : Tensor S) :
    vjp (.scale s) c self t x = .ok [some ⟨x.dims, x.vals.map (· * s)⟩] := by rfl

variable (d : List Nat) (c x self : Tensor ℝ)

theorem C02_closure_neg (hc : Shaped d c) (hx : Shaped d x) :
    vjp (.neg : OpTag ℝ) [c] self [true] x = .ok [some (diag (fun _ => -1) d x c)] ∧
    ∀ y : ℝ, HasDerivAt (fun y => -y) (-1) y := closure_neg d c x self hc hx

theorem C02_closure_scale (s : ℝ) (hc : Shaped d c) (hx : Shaped d x) :
    vjp (.scale s : OpTag ℝ) [c] self [true] x = .ok [some (diag (fun _ => s) d x c)] ∧
    ∀ y : ℝ, HasDerivAt (fun y => y * s) s y :=
  ⟨congrArg (fun r => Except.ok [some r]) (scale_diag d c x s hc hx), fun _ => hasDerivAt_mul_const s⟩

theorem C02_closure_powf (e : ℝ) (hne : d ≠ []) (hpos : ∀ k ∈ d, 1 ≤ k) (hc : Shaped d c) (hx : Shaped d x) :
    vjp (.powf e : OpTag ℝ) [c] self [true] x = .ok [some (diag (fun y => e * y ^ (e - 1)) d x c)] ∧
    ∀ y : ℝ, (y ≠ 0 ∨ 1 ≤ e) → HasDerivAt (fun y : ℝ => y ^ e) (e * y ^ (e - 1)) y := by
  refine ⟨?_, fun y h => Real.hasDerivAt_rpow_const h⟩
  have hK : scale (powf c (e - one)) e = mapT (fun y => e * y ^ (e - 1)) c :=
    (mapT_mapT _ _ c).trans (mapT_congr (fun y => mul_comm _ _) c)
  rw [vjp_powf, hK, mul_mapT_left d c x _ hne hpos hc hx, ok_bind]

theorem C02_closure_ln (hne : d ≠ []) (hpos : ∀ k ∈ d, 1 ≤ k) (hc : Shaped d c) (hx : Shaped d x) :
    vjp (.ln : OpTag ℝ) [c] self [true] x = .ok [some (diag (fun y => 1 / y) d x c)] ∧
    ∀ y : ℝ, y ≠ 0 → HasDerivAt Real.log (1 / y) y := by
  refine ⟨?_, fun y h => by simpa [one_div] using Real.hasDerivAt_log h⟩
  rw [vjp_ln, show mul x (recip c) = _ from mul_mapT_right d c x (fun y => 1 / y) hne hpos hc hx, ok_bind]

/-- the closure multiplies the delta by the cached forward value -/
theorem C02_closure_exp (hne : d ≠ []) (hpos : ∀ k ∈ d, 1 ≤ k) (hc : Shaped d c) (hx : Shaped d x) :
    vjp (.exp : OpTag ℝ) [c] (exp c) [true] x = .ok [some (diag Real.exp d x c)] ∧
    ∀ y : ℝ, HasDerivAt Real.exp (Real.exp y) y := by
  refine ⟨?_, Real.hasDerivAt_exp⟩
  rw [vjp_exp, show Tensor.mk? c.dims (mulValues x.vals (exp c).vals) = _ from
      mk?_mulValues d c x.vals (c.vals.map Real.exp) hpos hc hx.2 ((List.length_map _).trans hc.2), diag_right, ok_bind]

theorem C02_closure_recip (hne : d ≠ []) (hpos : ∀ k ∈ d, 1 ≤ k) (hc : Shaped d c) (hx : Shaped d x) :
    vjp (.recip : OpTag ℝ) [c] self [true] x = .ok [some (diag (fun y => -((1 / y) ^ (2 : ℝ))) d x c)] ∧
    ∀ y : ℝ, y ≠ 0 → HasDerivAt (fun y : ℝ => 1 / y) (-((1 / y) ^ (2 : ℝ))) y := by
  refine ⟨?_, fun y h => ?_⟩
  · have hK : neg (powf (recip c) (one + one)) = mapT (fun y => -((1 / y) ^ (2 : ℝ))) c :=
      ((mapT_mapT _ _ _).trans (mapT_mapT _ _ c)).trans
        (mapT_congr (fun y => by show (1 / y) ^ ((1 : ℝ) + 1) * -1 = _; rw [one_add_one_eq_two, mul_neg_one]) c)
    rw [vjp_recip, hK, mul_mapT_left d c x _ hne hpos hc hx, ok_bind]
  · refine (C02_recip y h).congr_deriv ?_
    show (0 - 1 / y * 1) / y = _
    rw [Real.rpow_two]; ring

theorem C02_closure_relu (hne : d ≠ []) (hpos : ∀ k ∈ d, 1 ≤ k) (hc : Shaped d c) (hx : Shaped d x) :
    vjp (.relu : OpTag ℝ) [c] self [true] x = .ok [some (diag (fun y => if 0 < y then 1 else 0) d x c)] ∧
    ∀ y : ℝ, y ≠ 0 → HasDerivAt (fun y : ℝ => if 0 < y then y else 0) (if 0 < y then 1 else 0) y := by
  refine ⟨?_, C02_relu⟩
  have hK : mapT (fun v => if ScalarOps.pos v then one else zero) c = mapT (fun y => if 0 < y then 1 else 0) c :=
    mapT_congr (fun y => by simp [ScalarOps.pos, ScalarOps.one, ScalarOps.zero]) c
  rw [vjp_relu, hK, mul_mapT_left d c x _ hne hpos hc hx, ok_bind]

/-- the closure uses the cached forward value -/
theorem C02_closure_sigmoid (hne : d ≠ []) (hpos : ∀ k ∈ d, 1 ≤ k) (hc : Shaped d c) (hx : Shaped d x) :
    vjp (.sigmoid : OpTag ℝ) [c] (sigmoid c) [true] x
      = .ok [some (diag (fun y => (1 / (1 + Real.exp (-y))) * (1 - 1 / (1 + Real.exp (-y)))) d x c)] ∧
    ∀ y : ℝ, HasDerivAt (fun y : ℝ => 1 / (1 + Real.exp (-y)))
      ((1 / (1 + Real.exp (-y))) * (1 - 1 / (1 + Real.exp (-y)))) y := by
  refine ⟨?_, C02_sigmoid⟩
  have hK : (sigmoid c).vals.map (fun v => v * (one - v))
      = c.vals.map (fun y => (1 / (1 + Real.exp (-y))) * (1 - 1 / (1 + Real.exp (-y)))) := List.map_map
  rw [vjp_sigmoid, mk?_mulValues d c _ x.vals hpos hc (by simpa [sigmoid, mapT] using hc.2) hx.2, hK, diag_left, ok_bind]

theorem C02_closure_add (a b : Tensor ℝ) :
    vjp (.add : OpTag ℝ) [a, b] self [true, true] x = .ok [some x, some x] := by rfl

theorem C02_closure_mul (a b : Tensor ℝ) (hne : d ≠ []) (hpos : ∀ k ∈ d, 1 ≤ k) (ha : Shaped d a) (hb : Shaped d b)
    (hx : Shaped d x) :
    vjp (.mul : OpTag ℝ) [a, b] self [true, true] x
      = .ok [some (diag (fun v => v) d x b), some (diag (fun u => u) d x a)] ∧
    ∀ u v : ℝ, HasDerivAt (fun u => u * v) v u ∧ HasDerivAt (fun v => u * v) u v := by
  refine ⟨?_, fun u v => ⟨hasDerivAt_mul_const v, by simpa using (hasDerivAt_id v).const_mul u⟩⟩
  have h1 := mul_mapT_left d b x (fun v => v) hne hpos hb hx
  have h2 := mul_mapT_left d a x (fun u => u) hne hpos ha hx
  rw [mapT_id] at h1 h2
  simp only [vjp_mul, whenT_ok, ok_bind, h1, h2]

theorem C02_closure_div (a b : Tensor ℝ) (hne : d ≠ []) (hpos : ∀ k ∈ d, 1 ≤ k) (ha : Shaped d a) (hb : Shaped d b)
    (hx : Shaped d x) :
    vjp (.div : OpTag ℝ) [a, b] self [true, true] x
      = .ok [some (diag (fun v => 1 / v) d x b),
             some ⟨d, List.zipWith (· * ·) (List.zipWith (fun u v => -u / v ^ (2 : ℝ)) a.vals b.vals) x.vals⟩] ∧
    ∀ u v : ℝ, v ≠ 0 → HasDerivAt (fun u => u / v) (1 / v) u ∧ HasDerivAt (fun v => u / v) (-u / v ^ (2 : ℝ)) v :=
  closure_div d x self a b hne hpos ha hb hx

/-! non-vacuity: a `[2,3]` operand and delta over ℝ are `Shaped` -/
example : Shaped [2, 3] (⟨[2, 3], [1, 2, 3, 4, 5, 6]⟩ : Tensor ℝ) := ⟨rfl, rfl⟩

end pointwise

section transposes
variable {S : Type} [Add S] [Mul S] [Neg S] [Sub S] [ScalarOps S] [BEq S]

/-- **`sum(k)`: the closure is the transpose of the forward map.**  Forward (C07, `sum_spec`): the block sums
    `specSum a k`.  Closure (`sumBack_spec`): every element of the delta repeated over the block it summed.
    `⟨sum(k)(a), x⟩ = ⟨a, closure(x)⟩` is the defining property of the transposed (Jacobian of the) linear map. -/
theorem C02_sum_closure_is_transpose [AddLaws S] [MulLaws S] [CommLaws S] (a x : Tensor S) (k : Nat) (hk : 1 ≤ k)
    (ha : a.WF) (hx : Shaped (a.dims.take (a.dims.length - k) ++ [1]) x) :
    dot (specSum a k).vals x.vals
      = dot a.vals (x.vals.flatMap (List.replicate (prod (a.dims.drop (a.dims.length - k))))) := by
  rw [specSum_vals a k (Nat.ne_of_gt hk)]
  apply blockSums_adjoint
  · rw [← ha.2, ← prod_take_mul_drop a.dims (a.dims.length - k)]
  · rw [hx.2, prod_snoc, Nat.mul_one]

/-- **`reshape`: the closure is the transpose of the forward map** (both keep the buffer and change the
    dimensions only): `⟨reshape(a), x⟩ = ⟨a, reshape-back(x)⟩`. -/
theorem C02_reshape_closure_is_transpose (a x t back : Tensor S) (d : List Nat)
    (hf : reshape a d = .ok t) (hb : reshape x a.dims = .ok back) : dot t.vals x.vals = dot a.vals back.vals := by
  rw [mk?_vals_of_ok d a.vals t hf, mk?_vals_of_ok a.dims x.vals back hb]

/-- **`matmul`, left operand: the summation kernel of the closure is the transpose of the product's.**
    For entry functions `A : m×k`, `B : k×n`, `X : m×n` of any sizes, `⟨A·B, X⟩ = ⟨A, X·Bᵀ⟩` — the closure's product
    for the left operand
    (`linEntry_matmul_left`: `specMatmul` of the delta with `b` under the flags the code passes) is built from
    exactly the right-hand kernel.  Lifted to `specMatmul` on two matrices, every pair of flags, by
    `matmul2d_closure_left/right`; PARTIAL: not lifted to operands with batch dimensions. -/
theorem C02_matmul_kernel_is_transpose_left [AddLaws S] [MulLaws S] [CommLaws S] (m k n : Nat) (A B X : Nat → Nat → S) :
    sumRange m (fun r => sumRange n (fun j => sumRange k (fun t => A r t * B t j) * X r j))
      = sumRange m (fun r => sumRange k (fun t => A r t * sumRange n (fun j => B t j * X r j))) :=
  matmul_kernel_adjoint_left m k n A B X

/-- **`matmul`, right operand**: `⟨A·B, X⟩ = ⟨B, Aᵀ·X⟩` on the same kernels. -/
theorem C02_matmul_kernel_is_transpose_right [AddLaws S] [MulLaws S] [CommLaws S] (m k n : Nat) (A B X : Nat → Nat → S) :
    sumRange m (fun r => sumRange n (fun j => sumRange k (fun t => A r t * B t j) * X r j))
      = sumRange k (fun t => sumRange n (fun j => B t j * sumRange m (fun r => A r t * X r j))) :=
  matmul_kernel_adjoint_right m k n A B X

/-- **`matmul` of two matrices: the left closure is the transpose of the forward map.**  Forward (C05,
    `matmul_spec_none`): `specMatmul a false b false none`.  Left closure (`linEntry_matmul_left` with the flags
    the code passes for an untransposed pair): `specMatmul x false b true none`.  `⟨a·b, x⟩ = ⟨a, x·bᵀ⟩`.
    The instance `ta = tb = false` of `matmul2d_closure_left`, whose right-hand side is the branch of
    `vjp (.matmul ta tb)` itself, for all four flag pairs.  PARTIAL: rank-2 operands; batch dimensions are not lifted. -/
theorem C02_matmul2d_left_closure_is_transpose [AddLaws S] [MulLaws S] [CommLaws S] (a b x : Tensor S) (m k n : Nat)
    (ha : a.dims = [m, k]) (hb : b.dims = [k, n]) (hx : x.dims = [m, n]) (hwa : a.WF) (hwx : x.WF) :
    dot (specMatmul a false b false none).vals x.vals = dot a.vals (specMatmul x false b true none).vals :=
  matmul2d_closure_left a b x false false m k n ha hb hx hwa hwx

/-- **right closure**: `⟨a·b, x⟩ = ⟨b, aᵀ·x⟩` with the closure's product `specMatmul a true x false none`. -/
theorem C02_matmul2d_right_closure_is_transpose [AddLaws S] [MulLaws S] [CommLaws S] (a b x : Tensor S) (m k n : Nat)
    (ha : a.dims = [m, k]) (hb : b.dims = [k, n]) (hx : x.dims = [m, n]) (hwb : b.WF) (hwx : x.WF) :
    dot (specMatmul a false b false none).vals x.vals = dot b.vals (specMatmul a true x false none).vals :=
  matmul2d_closure_right a b x false false m k n ha hb hx hwb hwx

/-- **`matmul` with the second operand transposed (the product `conv` forms with the reshaped filters): the left
    closure is the transpose of the forward map.**  For `a : [m,k]`, `b : [n,k]` and a delta `x : [m,n]`:
    `⟨a·bᵀ, x⟩ = ⟨a, x·b⟩`, the right-hand product being `specMatmul x false b false none`, the one the left
    closure forms under the flags the code passes for this pair. -/
theorem C02_matmul2d_FT_left_closure_is_transpose [AddLaws S] [MulLaws S] [CommLaws S] (a b x : Tensor S) (m k n : Nat)
    (ha : a.dims = [m, k]) (hb : b.dims = [n, k]) (hx : x.dims = [m, n]) (hwa : a.WF) (hwx : x.WF) :
    dot (specMatmul a false b true none).vals x.vals = dot a.vals (specMatmul x false b false none).vals :=
  matmul2d_closure_left a b x false true m k n ha hb hx hwa hwx

/-- **`a · bᵀ`, right closure** (the filters' side of `conv`'s product): for `a : [m,k]`, `b : [n,k]`, delta
    `x : [m,n]`: `⟨a·bᵀ, x⟩ = ⟨b, xᵀ·a⟩`, the right-hand product being `specMatmul x true a false none`. -/
theorem C02_matmul2d_FT_right_closure_is_transpose [AddLaws S] [MulLaws S] [CommLaws S] (a b x : Tensor S) (m k n : Nat)
    (ha : a.dims = [m, k]) (hb : b.dims = [n, k]) (hx : x.dims = [m, n]) (hwb : b.WF) (hwx : x.WF) :
    dot (specMatmul a false b true none).vals x.vals = dot b.vals (specMatmul x true a false none).vals :=
  matmul2d_closure_right a b x false true m k n ha hb hx hwb hwx

/-- **`aᵀ · b`, left closure**: for `a : [k,m]`, `b : [k,n]`, delta `x : [m,n]`: `⟨aᵀ·b, x⟩ = ⟨a, b·xᵀ⟩`, the
    right-hand product being `specMatmul b false x true none` (in `a`'s own `[k,m]` layout). -/
theorem C02_matmul2d_TF_left_closure_is_transpose [AddLaws S] [MulLaws S] [CommLaws S] (a b x : Tensor S) (m k n : Nat)
    (ha : a.dims = [k, m]) (hb : b.dims = [k, n]) (hx : x.dims = [m, n]) (hwa : a.WF) (hwx : x.WF) :
    dot (specMatmul a true b false none).vals x.vals = dot a.vals (specMatmul b false x true none).vals :=
  matmul2d_closure_left a b x true false m k n ha hb hx hwa hwx

/-- non-vacuity: a 2×3 by 3×2 product with a 2×2 delta meets the hypotheses -/
example : (⟨[2, 3], [1, 2, 3, 4, 5, 6]⟩ : Tensor ℝ).WF ∧ (⟨[2, 2], [1, 0, 0, 1]⟩ : Tensor ℝ).WF :=
  ⟨⟨by decide, rfl⟩, by decide, rfl⟩

/-- **convolution, first stage (`unroll_blocks`): the closure is the transpose of the forward map**, per
    image and with overlapping windows.  Forward slice operation (`unrollOp`, the one `unrollBlocks` runs on
    every image): a gather through `unrollIdx`.  Closure slice operation (`rollOp true`, the one the stored
    closure runs through `rollBlocks … true`): a scatter-add through `rollIdx`.  Whenever both return, over a
    commutative ring, `⟨unroll(img), xs⟩ = ⟨img, roll(xs)⟩`.  Per image slice; the batch loop is
    `C02_unroll_blocks_closure_is_transpose`, `expand_conv` is `C02_expand_closure_is_transpose`, the product in
    between the matmul case. -/
theorem C02_unroll_closure_is_transpose [AddLaws S] [MulLaws S] [CommLaws S]
    (depth rows cols sr sc fr fc count cCount : Nat) (img xs U B : List S)
    (himg : img.length = depth * rows * cols) (hxs : xs.length = count * (fr * fc) * depth)
    (hin : ∀ o, o < count * (fr * fc) * depth → unrollIdx cols rows depth sr sc fr fc cCount o < depth * rows * cols)
    (hU : unrollOp cols rows depth sr sc fr fc cCount (count * (fr * fc) * depth) [img] = .ok U)
    (hB : rollOp true depth rows cols sr sc fr fc count cCount [xs] = .ok B) :
    dot U xs = dot img B :=
  unroll_roll_slice_adjoint depth rows cols sr sc fr fc count cCount img xs U B himg hxs hin hU hB

/-- the read position of `unroll_blocks` and the write position of `roll_blocks` are the same function -/
theorem C02_unroll_roll_same_index (cols rows depth sr sc fr fc cCount o : Nat) :
    unrollIdx cols rows depth sr sc fr fc cCount o = rollIdx depth rows cols sr sc fr fc cCount o :=
  unrollIdx_eq_rollIdx cols rows depth sr sc fr fc cCount o

/-- non-vacuity: a 1×1×3 image, 1×2 filter, stride 1 (two overlapping windows) meets every hypothesis -/
example : ∃ U B : List ℝ,
    (∀ o, o < 2 * (1 * 2) * 1 → unrollIdx 3 1 1 1 1 1 2 2 o < 1 * 1 * 3) ∧
    unrollOp 3 1 1 1 1 1 2 2 (2 * (1 * 2) * 1) [([1, 2, 3] : List ℝ)] = .ok U ∧
    rollOp true 1 1 3 1 1 1 2 2 2 [([1, 1, 1, 1] : List ℝ)] = .ok B :=
  have hin : ∀ o, o < 2 * (1 * 2) * 1 → unrollIdx 3 1 1 1 1 1 2 2 o < 1 * 1 * 3 := by decide
  ⟨_, _, hin, unrollOp_ok _ _ _ _ _ _ _ _ _ _ hin,
    rollOp_ok 1 1 3 1 1 1 2 2 2 _ rfl fun i hi => unrollIdx_eq_rollIdx 3 1 1 1 1 1 2 2 i ▸ hin i hi⟩

/-- **`unroll_blocks`, every admissible shape, nothing assumed about success**: for an image of `D×R×C`
    values, a window `fr×fc` that fits (the shapes `conv` accepts) and any strides, both slice operations return
    and `⟨unroll(img), xs⟩ = ⟨img, roll(xs)⟩` for every delta of the unrolled length. -/
theorem C02_unroll_closure_is_transpose_total [AddLaws S] [MulLaws S] [CommLaws S] (D R C sr sc fr fc : Nat) (img xs : List S)
    (hfr : fr ≤ R) (hfc : fc ≤ C) (hfr1 : 1 ≤ fr) (hfc1 : 1 ≤ fc) (hD : 1 ≤ D)
    (himg : img.length = D * R * C)
    (hxs : xs.length = (((R - fr) / sr + 1) * ((C - fc) / sc + 1)) * (fr * fc) * D) :
    ∃ U B : List S,
      unrollOp C R D sr sc fr fc ((C - fc) / sc + 1) ((((R - fr) / sr + 1) * ((C - fc) / sc + 1)) * (fr * fc) * D) [img] = .ok U ∧
      rollOp true D R C sr sc fr fc (((R - fr) / sr + 1) * ((C - fc) / sc + 1)) ((C - fc) / sc + 1) [xs] = .ok B ∧
      dot U xs = dot img B :=
  unroll_roll_slice_adjoint_total D R C sr sc fr fc img xs hfr hfc hfr1 hfc1 hD himg hxs

/-- **convolution, first stage, whole batch: the stored closure's operation is the transpose of `unroll_blocks`.**
    For any batch dimensions, every window that fits and all strides, both `unrollBlocks` and the closure's
    `rollBlocks … true` return, the result has the operand's dimensions, and
    `⟨unroll_blocks(a), x⟩ = ⟨a, roll_blocks(x)⟩` — overlapping windows accumulate, windows a stride skips receive
    nothing. -/
theorem C02_unroll_blocks_closure_is_transpose [AddLaws S] [MulLaws S] [CommLaws S] (a x : Tensor S) (B : List Nat)
    (D R C sr sc fr fc : Nat) (hda : a.dims = B ++ [D, R, C]) (hwa : a.WF)
    (hfr : fr ≤ R) (hfc : fc ≤ C) (hfr1 : 1 ≤ fr) (hfc1 : 1 ≤ fc) (hsr : 1 ≤ sr) (hsc : 1 ≤ sc)
    (hx : Shaped (B ++ [((R - fr) / sr + 1) * ((C - fc) / sc + 1), D * (fr * fc)]) x) :
    ∃ U back : Tensor S, unrollBlocks a sr sc fr fc = .ok U ∧ rollBlocks x D R C sr sc fr fc true = .ok back ∧
      back.dims = a.dims ∧ dot U.vals x.vals = dot a.vals back.vals :=
  unrollBlocks_closure_adjoint a x B D R C sr sc fr fc hda hwa hfr hfc hfr1 hfc1 hsr hsc hx

/-- non-vacuity: a batch of two 1×2×3 images, a 1×2 window, strides 1 -/
example : (⟨[2, 1, 2, 3], [1, 2, 3, 4, 5, 6, 7, 8, 9, 10, 11, 12]⟩ : Tensor ℝ).WF ∧
    Shaped ([2] ++ [((2 - 1) / 1 + 1) * ((3 - 2) / 1 + 1), 1 * (1 * 2)])
      (⟨[2, 4, 2], [1, 0, 0, 1, 1, 0, 0, 1, 1, 0, 0, 1, 1, 0, 0, 1]⟩ : Tensor ℝ) :=
  ⟨⟨by decide, rfl⟩, rfl, rfl⟩

/-- **convolution, last stage (`expand_conv`): the closure is the transpose of the forward map**, for every
    batch size.  Forward: `expandConv` (per image, `[windows, filters]` to `[filters, rows, cols]`); closure:
    `expandConvBack` on the operand's dimensions (what the stored closure of an `.expand` node runs).  Whenever
    both return, over a commutative ring, `⟨expand(t), x⟩ = ⟨t, back(x)⟩`. -/
theorem C02_expand_closure_is_transpose [AddLaws S] [MulLaws S] [CommLaws S] (t x out back : Tensor S)
    (lead : List Nat) (nImg stride filters r c : Nat)
    (hd : t.dims = lead ++ [stride, filters]) (hp : prod t.dims = nImg * (stride * filters)) (hwf : prod t.dims = t.vals.length)
    (hx : x.vals.length = nImg * (stride * filters))
    (hf : expandConv t r c = .ok out) (hb : expandConvBack x t.dims = .ok back) :
    dot out.vals x.vals = dot t.vals back.vals :=
  expandConv_closure_adjoint t x out back lead nImg stride filters r c hd hp hwf hx hf hb

/-- non-vacuity: two images of 2 windows × 3 filters meet the hypotheses and both operations return -/
example : ∃ out back : Tensor Nat,
    expandConv (⟨[2, 2, 3], [1, 2, 3, 4, 5, 6, 7, 8, 9, 10, 11, 12]⟩ : Tensor Nat) 1 2 = .ok out ∧
    expandConvBack (⟨[2, 3, 1, 2], [1, 0, 0, 1, 0, 0, 2, 0, 0, 0, 0, 3]⟩ : Tensor Nat) [2, 2, 3] = .ok back ∧
    out.vals = [1, 4, 2, 5, 3, 6, 7, 10, 8, 11, 9, 12] := by
  refine ⟨_, _, rfl, rfl, rfl⟩

end transposes

/-- a two-node heap: a tracked leaf `a : [2]` and the recorded product `a * a` -/
noncomputable def exHeap : State ℝ :=
  let p := hLeaf ({} : State ℝ) ⟨[2], [3, 4]⟩
  let a : Handle := { p.2 with tracked := true, keep := true }
  (p.1.alloc ⟨[2], [9, 16]⟩ [a, a] (some .mul) true).1

theorem exHeap_good : Good exHeap :=
  have a := (hLeaf_spec ({} : State ℝ) ⟨[2], [3, 4]⟩).inv good_init.heap trivial
  have hv : ({ (hLeaf ({} : State ℝ) ⟨[2], [3, 4]⟩).2 with tracked := true, keep := true } : Handle).Valid
      (hLeaf ({} : State ℝ) ⟨[2], [3, 4]⟩).1 := a.2
  have b : Allocs _ True true _ := .alloc (t := ⟨[2], [9, 16]⟩) (tag := some (.mul : OpTag ℝ)) (label := "")
    (fun _ => valid2 hv hv) fun _ => ⟨.mul, rfl, rfl⟩
  -- `exHeap` has no named roots: its `env`, `layers` and `models` are `[]` by unfolding
  ⟨(b.inv a.1 trivial).1, ⟨fun _ h => absurd h List.not_mem_nil, fun _ h => absurd h List.not_mem_nil,
    fun _ h => absurd h List.not_mem_nil⟩⟩

/-- **non-vacuity of `C01_pathsum_of_stored_closures`**: the hypothesis `ShapeOK` holds of a heap with a
    recorded operation (by the executable check the driver runs before every pass) -/
theorem exHeap_shapeOK : ShapeOK exHeap := shapeOKb_sound exHeap rfl

end Corgi

#print axioms Corgi.C02_exp
#print axioms Corgi.C02_ln
#print axioms Corgi.C02_powf
#print axioms Corgi.C02_recip
#print axioms Corgi.C02_div
#print axioms Corgi.C02_mul
#print axioms Corgi.C02_sigmoid
#print axioms Corgi.C02_relu
#print axioms Corgi.C02_scale_closure
#print axioms Corgi.C02_closure_neg
#print axioms Corgi.C02_closure_scale
#print axioms Corgi.C02_closure_powf
#print axioms Corgi.C02_closure_ln
#print axioms Corgi.C02_closure_exp
#print axioms Corgi.C02_closure_recip
#print axioms Corgi.C02_closure_relu
#print axioms Corgi.C02_closure_sigmoid
#print axioms Corgi.C02_closure_add
#print axioms Corgi.C02_closure_mul
#print axioms Corgi.C02_closure_div
#print axioms Corgi.exHeap_shapeOK
#print axioms Corgi.C02_sum_closure_is_transpose
#print axioms Corgi.C02_reshape_closure_is_transpose
#print axioms Corgi.C02_matmul_kernel_is_transpose_left
#print axioms Corgi.C02_matmul_kernel_is_transpose_right
#print axioms Corgi.C02_matmul2d_left_closure_is_transpose
#print axioms Corgi.C02_matmul2d_right_closure_is_transpose
#print axioms Corgi.C02_unroll_closure_is_transpose
#print axioms Corgi.C02_unroll_roll_same_index
#print axioms Corgi.C02_expand_closure_is_transpose
#print axioms Corgi.C02_unroll_closure_is_transpose_total
#print axioms Corgi.C02_unroll_blocks_closure_is_transpose
#print axioms Corgi.C02_matmul2d_FT_left_closure_is_transpose
#print axioms Corgi.C02_matmul2d_FT_right_closure_is_transpose
#print axioms Corgi.C02_matmul2d_TF_left_closure_is_transpose
