/-
  C11 — One pass evaluates each node's derivative once, with its complete adjoint.
  (Counting half; the "complete adjoint" half is the path-sum theorem of C01.)
-/
import CorgiProofs.HeapStep
import CorgiProofs.Instances

set_option linter.unusedSectionVars false

namespace Corgi
variable {S : Type} [Add S] [Mul S] [Neg S] [Sub S] [ScalarOps S] [BEq S]

/-- **Exactly once.**  For every graph whose stored operands are older than their consumer (any
    fan-out, diamonds, self-products, depth) and lawful closures: a pass that completes from a clean
    state enters a node if and only if it is reachable from the root through tracked operands, and
    enters it once (the log has no duplicates).  The closure of a node is invoked on entry. -/
theorem C11_once (G : Graph S) (wf : G.WF) (lawful : G.Lawful) (fuel root : Nat) (hf : root < fuel)
    (dims : List Nat) (keep : Bool) (seed : Option (Tensor S)) (σ σ' : EState S)
    (hclean : σ.Clean) (hlog : σ.log = []) (hok : backward G fuel root dims keep seed σ = .ok σ') :
    (logN σ').Nodup ∧ ∀ m, m ∈ logN σ' ↔ Reach G root m :=
  let h := backward_counts G wf lawful fuel root hf dims keep seed σ σ' hclean hlog hok
  ⟨h.2.1, h.2.2.1⟩

/-- **Only after all consumers.**  Every node is entered after every reachable node that holds a
    tracked operand slot pointing to it (the log lists the most recent entry first). -/
theorem C11_after (G : Graph S) (wf : G.WF) (lawful : G.Lawful) (fuel root : Nat) (hf : root < fuel)
    (dims : List Nat) (keep : Bool) (seed : Option (Tensor S)) (σ σ' : EState S)
    (hclean : σ.Clean) (hlog : σ.log = []) (hok : backward G fuel root dims keep seed σ = .ok σ') :
    LogOrder G root (logN σ') :=
  (backward_counts G wf lawful fuel root hf dims keep seed σ σ' hclean hlog hok).2.2.2

/-- **Work is linear.**  The number of node entries is the number of distinct reachable nodes, whatever
    the number of paths. -/
theorem C11_linear_work (G : Graph S) (wf : G.WF) (lawful : G.Lawful) (fuel root : Nat) (hf : root < fuel)
    (dims : List Nat) (keep : Bool) (seed : Option (Tensor S)) (σ σ' : EState S)
    (hclean : σ.Clean) (hlog : σ.log = []) (hok : backward G fuel root dims keep seed σ = .ok σ')
    (nodes : List Nat) (hnd : nodes.Nodup) (hall : ∀ m, m ∈ nodes ↔ Reach G root m) :
    σ'.log.length = nodes.length := by
  obtain ⟨h1, h2⟩ := C11_once G wf lawful fuel root hf dims keep seed σ σ' hclean hlog hok
  have hp : (logN σ').Perm nodes := (List.perm_ext_iff_of_nodup h1 hnd).mpr (fun m => by rw [h2 m, hall m])
  have := hp.length_eq
  simpa [logN] using this

/-! non-vacuity: a self-product chain `y₁ = x·x, y₂ = y₁·y₁` is a well-founded graph with lawful closures -/
def chainG : Graph Int where
  kids := fun n => if n = 0 then [] else [⟨n - 1, [1], true, true⟩, ⟨n - 1, [1], true, true⟩]
  vjp := fun n => if n = 0 then none else some (fun _ x => pure [some x, some x])

example : chainG.WF := chain2_wf

example : chainG.Lawful := chain2_lawful

/-- **Exactly once, consumers first, in every reachable state.**  In the state after any history of
    commands, a completed pass on any bound array `v` with any seed entered exactly the nodes reachable
    from it through tracked stored operands, each exactly once, each only after all its consumers —
    with no assumption on the graph: the recorded graph of a reachable state is always well-founded
    with lawful closures (`graph_wf`, `graph_lawful`), and the engine state always clean. -/
theorem C11_once_reachable {σ σ' : State S} (hr : Reachable σ) (v : String) (h : Handle)
    (seed : Option (Tensor S)) (hg : σ.get v = .ok h) (hok : σ.backward h seed = .ok σ') :
    ∃ e : EState S, σ' = σ.withEState e ∧
      (logN e).Nodup ∧ (∀ m, m ∈ logN e ↔ Reach σ.graph h.node m) ∧ LogOrder σ.graph h.node (logN e) ∧
      σ'.lastLog.map (·.1) = (logN e).reverse := by
  obtain ⟨e, _, he, _, _, _, h1, h2, h3⟩ := good_backward_counts hr.good (hr.good.get hg) seed hok
  exact ⟨e, he, h1, h2, h3, by rw [he]; exact lastLog_nodes σ e⟩

end Corgi

#print axioms Corgi.C11_once
#print axioms Corgi.C11_after
#print axioms Corgi.C11_linear_work
#print axioms Corgi.C11_once_reachable
