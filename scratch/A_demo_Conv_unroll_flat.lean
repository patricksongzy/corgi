import CorgiProofs.Conv
namespace Corgi
variable {S : Type} [Add S] [Mul S] [Neg S] [Sub S] [ScalarOps S]

/-- Conv.unroll_flat, same statement, through `slicedOp_own`: no case split on the batch, no `slicesAt` -/
theorem unroll_flat_A (B : List Nat) (D R C sr sc fr fc : Nat) (iv : List S)
    (hposB : ∀ d ∈ B, 1 ≤ d) (hD : 1 ≤ D) (hR : 1 ≤ R) (hC : 1 ≤ C)
    (hlen : iv.length = prod B * (D * R * C))
    (hfr : fr ≤ R) (hfc : fc ≤ C) (hfr1 : 1 ≤ fr) (hfc1 : 1 ≤ fc) (hsr : 1 ≤ sr) (hsc : 1 ≤ sc) :
    unrollBlocks (⟨B ++ [D, R, C], iv⟩ : Tensor S) sr sc fr fc
      = .ok ⟨B ++ [((R - fr) / sr + 1) * ((C - fc) / sc + 1), D * (fr * fc)],
          (List.range (prod B * ((((R - fr) / sr + 1) * ((C - fc) / sc + 1)) * D * (fr * fc)))).map (fun p =>
            iv.getD (p / ((((R - fr) / sr + 1) * ((C - fc) / sc + 1)) * D * (fr * fc)) * (D * R * C)
              + unrollIdx C R D sr sc fr fc ((C - fc) / sc + 1)
                  (p % ((((R - fr) / sr + 1) * ((C - fc) / sc + 1)) * D * (fr * fc)))) zero)⟩ := by
  generalize hoR : (R - fr) / sr + 1 = oR
  generalize hoC : (C - fc) / sc + 1 = oC
  have hoR1 : 1 ≤ oR := by rw [← hoR]; exact Nat.succ_pos _
  have hoC1 : 1 ≤ oC := by rw [← hoC]; exact Nat.succ_pos _
  generalize hblk : oR * oC * D * (fr * fc) = blk
  have hblk1 : 0 < blk := by
    rw [← hblk]; exact Nat.mul_pos (Nat.mul_pos (Nat.mul_pos hoR1 hoC1) hD) (Nat.mul_pos hfr1 hfc1)
  have hprodO : prod [oR * oC, D * (fr * fc)] = blk := by
    rw [prod2, ← hblk]; simp only [Nat.mul_assoc]
  -- run the code up to the `sliced_op` call
  have d3 : dimFromEnd (B ++ [D, R, C]) 3 = .ok D := by simp [dimFromEnd, getR]
  have d2 : dimFromEnd (B ++ [D, R, C]) 2 = .ok R := by simp [dimFromEnd, getR]
  have d1 : dimFromEnd (B ++ [D, R, C]) 1 = .ok C := by simp [dimFromEnd, getR]
  have c1 : (decide (R < fr) || decide (C < fc)) = false := by simp; omega
  have c2 : (decide (sr = 0) || decide (sc = 0)) = false := by simp; omega
  have htake : (B ++ [D, R, C]).take ((B ++ [D, R, C]).length - 3) = B := by simp
  simp only [unrollBlocks, d3, d2, d1, c1, c2, ok_bind, pure_eq_ok, Bool.false_eq_true, if_false, htake, hoR, hoC]
  -- every image is mapped to its windows
  rw [slicedOp_own ⟨B ++ [D, R, C], iv⟩ _ B [D, R, C] [oR * oC, D * (fr * fc)] _ 3 0
    (fun img => (List.range blk).map fun o => img.getD (unrollIdx C R D sr sc fr fc oC o) zero)
    rfl (by simp) (by rw [hlen, prod_append, prod3]) hposB
    (by intro d hd; simp at hd; rcases hd with rfl | rfl
        · exact Nat.mul_pos hoR1 hoC1
        · exact Nat.mul_pos hD (Nat.mul_pos hfr1 hfc1))
    rfl]
  · -- positions of the concatenated blocks
    rw [flatten_range_divmod _ _ _ hblk1]
    refine congrArg (fun v => Except.ok (Tensor.mk _ v)) (List.map_congr_left fun p hp => ?_)
    have hq : p / blk < prod B := (Nat.div_lt_iff_lt_mul hblk1).mpr (List.mem_range.mp hp)
    have hb : p / blk * (D * R * C) + D * R * C ≤ iv.length := by
      rw [hlen, ← Nat.succ_mul]; exact Nat.mul_le_mul_right _ hq
    have hidx : unrollIdx C R D sr sc fr fc oC (p % blk) < D * R * C := by
      rw [← hoC]
      exact unrollIdx_lt C R D sr sc fr fc _ hfr hfc hfr1 hfc1 hD (by rw [hoR, hoC, hblk]; exact Nat.mod_lt _ hblk1)
    rw [prod3, List.getD_eq_getElem?_getD, block_getElem? iv _ _ _ hidx hb]
    rfl
  · intro img himg
    rw [prod3] at himg
    refine ⟨?_, by rw [hprodO, List.length_map, List.length_range]⟩
    simp only [unrollOp, hblk]
    refine tabulateM_ok _ _ _ fun o ho => getR_ok _ _ _ ?_
    have hidx : unrollIdx C R D sr sc fr fc oC o < img.length := by
      rw [himg, ← hoC]
      exact unrollIdx_lt C R D sr sc fr fc o hfr hfc hfr1 hfc1 hD (by rw [hoR, hoC, hblk]; exact ho)
    rw [List.getD_eq_getElem?_getD, List.getElem?_eq_getElem hidx]; rfl
end Corgi
