import CorgiProofs.Matmul
namespace Corgi
variable {S : Type} [Add S] [Mul S] [Neg S] [Sub S] [ScalarOps S]

/-- **`matmul`'s `sliced_op` call**, for any leading dimensions (none, or broadcast batches): the
    result lists, for every leading multi-index in row-major order, the block of product entries. -/
theorem matmul_core_A (la lb lead : List Nat) (a1 a2 b1 b2 x1 x2 m n kk : Nat) (ta tb setOutput : Bool)
    (av bv : List S) (cT : Tensor S) (ci : List Nat → Nat → S)
    (hposL : ∀ d ∈ lead, 1 ≤ d) (hm : 1 ≤ m) (hn : 1 ≤ n)
    (hfa : Fits la lead = true) (hfb : Fits lb lead = true)
    (hposA : ∀ d ∈ la, 1 ≤ d) (hposB : ∀ d ∈ lb, 1 ≤ d)
    (hav : av.length = prod la * (a1 * a2)) (hbv : bv.length = prod lb * (b1 * b2))
    (hA : m * kk = a1 * a2) (hB : kk * n = b1 * b2)
    (hvc : ((cT.dims.reverse.drop 2).zip ((lead ++ [x1, x2]).reverse.drop 2)).all (fun p => p.1 == 1 || p.1 == p.2) = true)
    (hc : ∀ nL, nL < prod lead → ∃ xc,
      slice cT.vals (projOffset (cT.dims.take (min (cT.dims.length - 2) lead.length)) (unflatten lead nL)
        * prod (cT.dims.reverse.take 2)) (prod (cT.dims.reverse.take 2)) = .ok xc ∧
      matmulInit setOutput xc (m * n) = .ok ((List.range (m * n)).map (ci (unflatten lead nL)))) :
    slicedOp [(⟨la ++ [a1, a2], av⟩ : Tensor S), ⟨lb ++ [b1, b2], bv⟩, cT] (matmulOp m n kk ta tb setOutput (m * n))
        (lead ++ [x1, x2]) (lead ++ [m, n]) 2 0
      = .ok ⟨lead ++ [m, n], (List.range (prod lead * (m * n))).map (fun p =>
          mmEntry la lb a1 a2 b1 b2 m n kk ta tb av bv (ci (unflatten lead (p / (m * n)))) (unflatten lead (p / (m * n))) (p % (m * n)))⟩ := by
  have hlen2 : (lead ++ [x1, x2]).length - 2 = lead.length := by simp
  have htakeD : (lead ++ [x1, x2]).take ((lead ++ [x1, x2]).length - 2) = lead := by simp
  have hmn : 0 < m * n := Nat.mul_pos hm hn
  obtain ⟨hlea, _⟩ := (Fits_iff _ _).mp hfa
  obtain ⟨hleb, _⟩ := (Fits_iff _ _).mp hfb
  have hvalid : [(⟨la ++ [a1, a2], av⟩ : Tensor S), ⟨lb ++ [b1, b2], bv⟩, cT].all (fun v =>
      ((v.dims.reverse.drop 2).zip ((lead ++ [x1, x2]).reverse.drop 2)).all (fun p => p.1 == 1 || p.1 == p.2)) = true := by
    simp only [List.all_cons, List.all_nil, Bool.and_true, Bool.and_eq_true]
    exact ⟨valid_lead_of_fits la lead a1 a2 x1 x2 hfa, valid_lead_of_fits lb lead b1 b2 x1 x2 hfb, hvc⟩
  let blk : Nat → List S := fun nL => (List.range (m * n)).map
    (mmEntry la lb a1 a2 b1 b2 m n kk ta tb av bv (ci (unflatten lead nL)) (unflatten lead nL))
  have hblock : ∀ nL, nL < prod lead →
      ∃ sl, slicesAt [(⟨la ++ [a1, a2], av⟩ : Tensor S), ⟨lb ++ [b1, b2], bv⟩, cT] 2 lead.length (unflatten lead nL) = .ok sl ∧
        matmulOp m n kk ta tb setOutput (m * n) sl = .ok (blk nL) := by
    intro nL hnL
    obtain ⟨xc, hxc, hin⟩ := hc nL hnL
    exact matmul_block la lb a1 a2 b1 b2 m n kk lead.length ta tb setOutput av bv cT xc _ _ hlea hleb hA hB
      (by rw [hav]; exact block_bound la lead _ nL hfa hposL hposA hnL)
      (by rw [hbv]; exact block_bound lb lead _ nL hfb hposL hposB hnL) hxc hin
  have hvals : ((List.range (prod lead)).map blk).flatten = (List.range (prod lead * (m * n))).map (fun p =>
      mmEntry la lb a1 a2 b1 b2 m n kk ta tb av bv (ci (unflatten lead (p / (m * n)))) (unflatten lead (p / (m * n))) (p % (m * n))) := by
    rw [← flatten_range_blocks _ (m * n) (prod lead)]
    congr 1
    apply List.map_congr_left
    intro nL _
    apply List.map_congr_left
    intro q hq
    have hq' : q < m * n := by simpa using hq
    have h1 : (nL * (m * n) + q) / (m * n) = nL := by
      rw [Nat.mul_comm nL, Nat.mul_add_div hmn, Nat.div_eq_of_lt hq', Nat.add_zero]
    have h2 : (nL * (m * n) + q) % (m * n) = q := by
      rw [Nat.mul_comm nL, Nat.mul_add_mod, Nat.mod_eq_of_lt hq']
    simp only [h1, h2]
  have hposO : ∀ d ∈ lead ++ [m, n], 1 ≤ d := by
    intro d hd; simp at hd; rcases hd with hd | hd | hd
    · exact hposL d hd
    · omega
    · omega
  rw [slicedOp_concat _ _ (lead ++ [x1, x2]) lead [m, n] 2 0 blk htakeD hvalid hposL (by intro d hd; simp at hd; omega)
    (fun nL hnL => by
      obtain ⟨sl, hsl, hop⟩ := hblock nL hnL
      exact ⟨sl, hsl, hop, by simp [blk, prod]⟩)]
  simp only [flattenTrailing, if_true, Except.bind, pure, Except.pure]
  rw [hvals, mkq_ok _ _ hposO (by simp [prod_append, prod])]
end Corgi
