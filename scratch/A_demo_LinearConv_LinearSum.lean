import CorgiProofs.LinearSum
import CorgiProofs.Conv
namespace Corgi
variable {S : Type} [Add S] [Mul S] [Neg S] [Sub S] [ScalarOps S] [BEq S]

/-- LinearConv.slicedOp_blocks, same statement: an instance of `slicedOp_own` -/
theorem slicedOp_blocks_A (x : Tensor S) (B inTail outTail : List Nat) (op : List (List S) → R (List S))
    (F : List S → List S) (hx : Shaped (B ++ inTail) x) (hposB : ∀ d ∈ B, 1 ≤ d) (hposO : ∀ d ∈ outTail, 1 ≤ d)
    (hop : ∀ blk : List S, blk.length = prod inTail → op [blk] = .ok (F blk) ∧ (F blk).length = prod outTail) :
    slicedOp [x] op x.dims (B ++ outTail) inTail.length 0
      = .ok ⟨B ++ outTail, ((List.range (prod B)).map (fun n =>
          F ((x.vals.drop (n * prod inTail)).take (prod inTail)))).flatten⟩ :=
  slicedOp_own x op B inTail outTail _ _ 0 F hx.1 (by simp [hx.1]) (by rw [hx.1, hx.2]) hposB hposO rfl hop

/-- LinearSum.sumBack_spec, same statement -/
theorem sumBack_spec_A (x : Tensor S) (lead blk : List Nat) (hx : Shaped (lead ++ [1]) x)
    (hposL : ∀ d ∈ lead, 1 ≤ d) (hposB : ∀ d ∈ blk, 1 ≤ d) :
    slicedOp [x] (sumBackOp (prod blk)) x.dims (lead ++ blk) 1 0
      = .ok ⟨lead ++ blk, x.vals.flatMap (List.replicate (prod blk))⟩ := by
  have hxl : x.vals.length = prod lead := by simp [hx.2, prod_snoc]
  rw [slicedOp_own x _ lead [1] blk _ 1 0 (fun b => List.replicate (prod blk) (b.getD 0 zero)) hx.1 (by simp [hx.1])
    (by rw [hx.1, hx.2]) hposL hposB rfl fun b hb => ?_]
  · refine congrArg (fun v => Except.ok (Tensor.mk _ v)) ?_
    rw [List.flatMap_def, ← hxl]
    conv => rhs; rw [← range_map_getD x.vals, List.map_map]
    refine congrArg _ (List.map_congr_left fun n _ => ?_)
    simp only [prod, Nat.mul_one, List.getD_eq_getElem?_getD, List.getElem?_take_of_lt Nat.zero_lt_one,
      List.getElem?_drop, Nat.add_zero, Function.comp]
  · match b, hb with
    | [v], _ => exact ⟨by simp [sumBackOp, getR], by simp⟩
end Corgi
